import StamModel.Concurrency
import StamModel.Lemmas.List
/-
  C20 — Concurrent readers of a shared store see sequential results.

  The theorem is about `StamModel/Concurrency.lean`: under the per-thread "no @include" state, whatever the
  interleaving, each reader is — at every moment — exactly where it would be after the same number of its own
  steps running alone; in particular when it has finished it has produced its sequential output.
  `shared_cell_interferes` exhibits the interleaving that the former shared cell allowed.

  Partial: only the serialisation-mode state machine is modelled. That the other readers (iteration, search,
  queries, the parallel adaptors) touch no interior-mutable state, and the changed flags (written only by a
  serialisation that has to write a stand-off file), are covered by the `concurrent` family's scheduler on the
  implementation, not by a theorem; memory-model level races are outside any executable model (Rust's `Sync`
  bound and the absence of `unsafe` in the crate are the argument there).
-/
namespace Stam.CC.C20
open Stam.CC

theorem stepFixed_other (cfgAllow : Bool) (ts : List Thread) (i j : Nat) (h : i ≠ j) :
    (stepFixed cfgAllow ts i)[j]? = ts[j]? := by
  unfold stepFixed
  cases hi : ts[i]? with
  | none => rfl
  | some t => simp [h]

theorem stepFixed_self (cfgAllow : Bool) (ts : List Thread) (i : Nat) (t : Thread) (hi : ts[i]? = some t) :
    (stepFixed cfgAllow ts i)[i]? = some (t.step cfgAllow) := by
  unfold stepFixed
  rw [hi]
  simp [(List.getElem?_eq_some_iff.mp hi).1]

theorem steps_succ (cfgAllow : Bool) (n : Nat) (t : Thread) :
    Thread.steps cfgAllow (n + 1) t = (Thread.steps cfgAllow n t).step cfgAllow := by
  induction n generalizing t with
  | zero => rfl
  | succ n ih => simp only [Thread.steps] at ih ⊢; rw [ih]

/-- **C20 (serialisation mode).** After any trace, thread `j` is in the state it reaches alone after as many
steps as the trace gives it: no other thread's steps are visible to it. -/
theorem runFixed_independent (cfgAllow : Bool) (trace : List Nat) (ts : List Thread) (j : Nat) (t : Thread)
    (hj : ts[j]? = some t) :
    (runFixed cfgAllow ts trace)[j]? = some (Thread.steps cfgAllow (trace.count j) t) := by
  refine foldl_prefix_induction (stepFixed cfgAllow)
    (fun pre ts' => ts'[j]? = some (Thread.steps cfgAllow (pre.count j) t)) ts hj ?_ trace
  intro pre ts' i ih
  rw [List.count_append]
  by_cases h : i = j
  · subst h
    rw [stepFixed_self cfgAllow ts' i _ ih, List.count_singleton_self, steps_succ]
  · rw [stepFixed_other cfgAllow ts' i j h, ih, List.count_singleton, if_neg (mt beq_iff_eq.1 h), Nat.add_zero]

theorem step_done (cfgAllow : Bool) (t : Thread) (h : t.todo = []) : t.step cfgAllow = t := by
  unfold Thread.step; rw [h]

theorem steps_done (cfgAllow : Bool) (n : Nat) (t : Thread) (h : t.todo = []) : Thread.steps cfgAllow n t = t := by
  induction n with
  | zero => rfl
  | succ n ih => simp [Thread.steps, step_done cfgAllow t h, ih]

/-- **C20 (result).** If the trace lets reader `j` run to completion, its output is its sequential output —
for every interleaving with any number of other readers. -/
theorem output_is_sequential (cfgAllow : Bool) (progs : List (List Act)) (trace : List Nat) (j : Nat)
    (prog : List Act) (hj : progs[j]? = some prog)
    (hdone : (Thread.steps cfgAllow (trace.count j) (Thread.start cfgAllow prog)).todo = []) :
    ∃ t, (runFixed cfgAllow (progs.map (Thread.start cfgAllow)) trace)[j]? = some t ∧
      t.out = (Thread.steps cfgAllow (trace.count j) (Thread.start cfgAllow prog)).out ∧ t.todo = [] := by
  have h0 : (progs.map (Thread.start cfgAllow))[j]? = some (Thread.start cfgAllow prog) := by
    simp [List.getElem?_map, hj]
  exact ⟨_, runFixed_independent cfgAllow trace _ j _ h0, rfl, hdone⟩

/-- once finished, further scheduling slots change nothing: the final output does not depend on how many slots
the trace offers beyond completion -/
theorem finished_is_stable (cfgAllow : Bool) (t : Thread) (n m : Nat)
    (h : (Thread.steps cfgAllow n t).todo = []) : Thread.steps cfgAllow (n + m) t = Thread.steps cfgAllow n t := by
  induction m with
  | zero => rfl
  | succ m ih => rw [← Nat.add_assoc, steps_succ, ih, step_done _ _ h]

/-! ## schedule and co-runner independence, whole-system form -/

/-- **C20 (no reader changes what another emits).** Reader `j`'s state depends only on how many slots it was
given: two runs with *different* co-runners (any number, any programs) and *different* schedules leave `j` in
the same state as soon as they give it the same number of slots. -/
theorem corunners_and_schedule_irrelevant (cfgAllow : Bool) (ts₁ ts₂ : List Thread) (tr₁ tr₂ : List Nat)
    (j₁ j₂ : Nat) (t : Thread) (h₁ : ts₁[j₁]? = some t) (h₂ : ts₂[j₂]? = some t)
    (hc : tr₁.count j₁ = tr₂.count j₂) :
    (runFixed cfgAllow ts₁ tr₁)[j₁]? = (runFixed cfgAllow ts₂ tr₂)[j₂]? := by
  rw [runFixed_independent cfgAllow tr₁ ts₁ j₁ t h₁, runFixed_independent cfgAllow tr₂ ts₂ j₂ t h₂, hc]

theorem stepFixed_length (cfgAllow : Bool) (ts : List Thread) (i : Nat) :
    (stepFixed cfgAllow ts i).length = ts.length := by
  unfold stepFixed
  cases ts[i]? <;> simp

theorem runFixed_length (cfgAllow : Bool) (ts : List Thread) (trace : List Nat) :
    (runFixed cfgAllow ts trace).length = ts.length :=
  List.foldlRecOn (motive := fun l => l.length = ts.length) trace _ rfl
    fun l hl i _ => (stepFixed_length cfgAllow l i).trans hl

/-- **C20 (whole system).** After any trace the system is, thread by thread, the list of solo runs: the
interleaved execution of any number of readers equals the product of their sequential executions. -/
theorem runFixed_eq_solo_runs (cfgAllow : Bool) (ts : List Thread) (trace : List Nat) :
    runFixed cfgAllow ts trace = ts.mapIdx (fun j t => Thread.steps cfgAllow (trace.count j) t) := by
  apply List.ext_getElem?
  intro j
  rw [List.getElem?_mapIdx]
  cases hj : ts[j]? with
  | some t =>
    rw [runFixed_independent cfgAllow trace ts j t hj]
    rfl
  | none =>
    rw [List.getElem?_eq_none (runFixed_length cfgAllow ts trace ▸ List.getElem?_eq_none_iff.mp hj)]
    rfl

/-- **C20 (outputs).** At every moment of every interleaving, what the readers have emitted is the list of what
each has emitted alone after as many of its own steps. -/
theorem outputs_are_solo_outputs (cfgAllow : Bool) (progs : List (List Act)) (trace : List Nat) :
    (runFixed cfgAllow (progs.map (Thread.start cfgAllow)) trace).map (·.out)
      = progs.mapIdx (fun j prog =>
          (Thread.steps cfgAllow (trace.count j) (Thread.start cfgAllow prog)).out) := by
  rw [runFixed_eq_solo_runs]
  apply List.ext_getElem?
  intro j
  simp only [List.getElem?_mapIdx, List.getElem?_map]
  cases progs[j]? <;> rfl

/-- a trace of a system *with* co-runners and the same reader on its own, given as many slots -/
example : (runFixed true ([storeProg [true, false, true], memberProg true, memberProg false].map (Thread.start true))
      [1, 0, 2, 1, 0, 1, 2])[0]?
    = (runFixed true [Thread.start true (storeProg [true, false, true])] [0, 0])[0]? := by decide

/-! ## progress: a reader given as many slots as its program has actions has finished -/

theorem act_todo (cfgAllow : Bool) (t : Thread) (a : Act) : (t.act cfgAllow a).todo = t.todo := by
  cases a <;> rfl

theorem settle_todo_le (cfgAllow : Bool) (fuel : Nat) (t : Thread) :
    (Thread.settle cfgAllow fuel t).todo.length ≤ t.todo.length := by
  induction fuel generalizing t with
  | zero => exact Nat.le_refl _
  | succ fuel ih =>
    unfold Thread.settle
    cases htd : t.todo with
    | nil => simp [htd]
    | cons a rest =>
      simp only
      split
      · simp [htd]
      · refine Nat.le_trans (ih _) ?_
        rw [act_todo]; simp

theorem step_todo_lt (cfgAllow : Bool) (t : Thread) (h : t.todo ≠ []) :
    (t.step cfgAllow).todo.length < t.todo.length := by
  unfold Thread.step
  cases htd : t.todo with
  | nil => exact absurd htd h
  | cons a rest =>
    simp only
    refine Nat.lt_of_le_of_lt (settle_todo_le _ _ _) ?_
    rw [act_todo]; simp

theorem steps_todo_le (cfgAllow : Bool) (n : Nat) (t : Thread) :
    (Thread.steps cfgAllow n t).todo.length ≤ t.todo.length - n := by
  induction n generalizing t with
  | zero => exact Nat.le_refl _
  | succ n ih =>
    simp only [Thread.steps]
    by_cases h : t.todo = []
    · have := ih t
      rw [h, List.length_nil, Nat.zero_sub] at this
      rw [step_done _ _ h, h, List.length_nil, Nat.zero_sub]
      exact this
    · rw [Nat.add_comm n 1, ← Nat.sub_sub]
      exact Nat.le_trans (ih (t.step cfgAllow))
        (Nat.sub_le_sub_right (Nat.le_sub_one_of_lt (step_todo_lt cfgAllow t h)) n)

theorem start_todo_le (cfgAllow : Bool) (prog : List Act) :
    (Thread.start cfgAllow prog).todo.length ≤ prog.length :=
  settle_todo_le cfgAllow prog.length _

/-- **C20 (progress).** A reader that was given at least as many slots as its program has actions has finished
— so the hypothesis of `output_is_sequential` is met by every fair-enough trace, by counting. -/
theorem finished_after_enough_slots (cfgAllow : Bool) (prog : List Act) (n : Nat) (hn : prog.length ≤ n) :
    (Thread.steps cfgAllow n (Thread.start cfgAllow prog)).todo = [] := by
  have h := steps_todo_le cfgAllow n (Thread.start cfgAllow prog)
  rw [Nat.sub_eq_zero_of_le (Nat.le_trans (start_todo_le cfgAllow prog) hn)] at h
  exact List.eq_nil_of_length_eq_zero (Nat.le_zero.1 h)

/-- the sequential output of a program -/
def soloOut (cfgAllow : Bool) (prog : List Act) : List Bool :=
  (Thread.steps cfgAllow prog.length (Thread.start cfgAllow prog)).out

/-- **C20 (result, closed form).** In every interleaving that gives each reader at least as many slots as its
program has actions, every reader ends with exactly its sequential output `soloOut`. -/
theorem all_outputs_sequential (cfgAllow : Bool) (progs : List (List Act)) (trace : List Nat)
    (hfair : ∀ j prog, progs[j]? = some prog → prog.length ≤ trace.count j) :
    (runFixed cfgAllow (progs.map (Thread.start cfgAllow)) trace).map (·.out)
      = progs.map (soloOut cfgAllow) := by
  rw [outputs_are_solo_outputs]
  apply List.ext_getElem?
  intro j
  simp only [List.getElem?_mapIdx, List.getElem?_map]
  cases hj : progs[j]? with
  | none => rfl
  | some prog =>
    simp only [Option.map_some, soloOut]
    have hle := hfair j prog hj
    have hfin := finished_after_enough_slots cfgAllow prog prog.length (Nat.le_refl _)
    obtain ⟨m, hm⟩ := Nat.exists_eq_add_of_le hle
    rw [hm, finished_is_stable cfgAllow _ prog.length m hfin]

/-- non-vacuity of `all_outputs_sequential`: three readers, each given enough slots -/
example : ∀ j prog, [storeProg [true, false], memberProg true, memberProg false][j]? = some prog →
    prog.length ≤ [0, 1, 2, 0, 1, 2, 1, 2, 0].count j := by
  intro j prog h
  match j, h with
  | 0, h => cases h; decide
  | 1, h => cases h; decide
  | 2, h => cases h; decide
  | n + 3, h => simp at h

/-! ## what the shared cell allowed (the behaviour before the repair, and what a regression looks like) -/

/-- store with one stand-off member, serialised while another thread serialises that member: alone the store
writes an @include reference; interleaved `1,0,…` it writes the member inline -/
theorem shared_cell_interferes :
    let progs := [storeProg [true], memberProg true]
    let start : Shared := ⟨true, progs.map (fun p => (settleShared p.length true ⟨p, 0, []⟩).2)⟩
    ((runShared start [0, 1, 1, 1]).ts.map (·.out)) = [[true], [false]] ∧
    ((runShared start [1, 0, 1, 1]).ts.map (·.out)) = [[false], [false]] := by decide

/-- the same schedule under the per-thread state -/
example : ((runFixed true ([storeProg [true], memberProg true].map (Thread.start true)) [1, 0, 1, 1]).map (·.out))
    = [[true], [false]] := by decide

/-- non-vacuity of `output_is_sequential`: a three-reader scenario where every reader completes -/
example : (Thread.steps true ([0, 1, 2, 0, 1, 2, 1, 2, 0].count 1) (Thread.start true (memberProg true))).todo = [] := by decide

end Stam.CC.C20
