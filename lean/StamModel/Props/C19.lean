import StamModel.Props.C19Merge
/-
  C19 — Loading untrusted serialisations never panics, aborts or hangs: the temporary-identifier logic.

  The theorems are about `StamModel/Untrusted.lean`:
   * `load_lands_at_handle` — an item with temporary identifier `!A<n>` lands in slot `n` (so every reference by
     temporary identifier resolves to that item: the link to C03), or loading fails;
   * `load_increasing` / `load_slots_bounded` — slots are used in increasing order and the number of slots in use
     never exceeds the largest temporary identifier plus the number of items;
   * `load_refuses_unallocatable` — a gap the allocator refuses is an error: no allocation is attempted that was
     not granted first.
  Everything else C19 asks (no panic, no abort, no hang for arbitrary byte strings in three formats; what is
  loaded satisfies C01-C03) is established on the implementation by the `untrusted` family (mutation fuzzing in
  worker processes under an address-space limit and a time-out), which is a test: C19 is partial in that sense.
-/
namespace Stam.UT.C19
open Stam.UT Stam.C19

theorem load_length (canAlloc : Nat → Bool) : ∀ (items : List (Option Nat)) (slots : Nat) (land : List Nat),
    load canAlloc slots items = some land → land.length = items.length :=
  fun items slots land h => (loadInto_above canAlloc 0 items slots land (loadInto_zero canAlloc items slots ▸ h)).2.2

/-- every landing slot is at least the number of slots there were, and landing slots increase strictly -/
theorem load_increasing (canAlloc : Nat → Bool) : ∀ (items : List (Option Nat)) (slots : Nat) (land : List Nat),
    load canAlloc slots items = some land → (∀ x ∈ land, slots ≤ x) ∧ land.Pairwise (· < ·) :=
  fun items slots land h =>
    have := loadInto_above canAlloc 0 items slots land (loadInto_zero canAlloc items slots ▸ h)
    ⟨this.1, this.2.1⟩

/-- **C19/C03 link.** On a fresh store, an item that carries the temporary identifier of handle `h` lands in
slot `h`. -/
theorem load_lands_at_handle (canAlloc : Nat → Bool) : ∀ (items : List (Option Nat)) (slots : Nat) (land : List Nat),
    load canAlloc slots items = some land →
    ∀ (k h : Nat), items[k]? = some (some h) → land[k]? = some h := by
  intro items
  induction items with
  | nil =>
    intro slots land _ k h hk
    simp at hk
  | cons it rest ih =>
    intro slots land hl k h hk
    obtain ⟨-, l, hl', rfl⟩ := load_cons.1 hl
    cases k with
    | zero =>
      cases Option.some.inj hk
      rfl
    | succ k => exact ih _ _ hl' k h hk

/-- the slots in use are bounded by the input: every landing slot is below (largest temporary identifier) +
(number of items) + (slots there were) -/
theorem load_slots_bounded (canAlloc : Nat → Bool) : ∀ (items : List (Option Nat)) (slots : Nat) (land : List Nat) (m : Nat),
    load canAlloc slots items = some land → (∀ h, some h ∈ items → h ≤ m) →
    ∀ x ∈ land, x < max slots (m + 1) + items.length := by
  intro items
  induction items with
  | nil =>
    intro slots land m h _ x hx
    cases h
    cases hx
  | cons it rest ih =>
    intro slots land m hl hm x hx
    obtain ⟨-, l, hl', rfl⟩ := load_cons.1 hl
    have hs : it.getD slots ≤ max slots m := by
      cases it with
      | none => exact Nat.le_max_left ..
      | some h =>
        have := hm h (List.mem_cons_self ..)
        simp only [Option.getD_some]
        omega
    rcases List.mem_cons.mp hx with rfl | hx
    · simp only [List.length_cons]
      omega
    · have := ih _ _ m hl' (fun h hh => hm h (List.mem_cons_of_mem _ hh)) x hx
      simp only [List.length_cons]
      omega

/-- **C19 (allocation).** If the allocator refuses the gap that the first temporary identifier asks for, loading
fails: nothing is allocated that was not granted. -/
theorem load_refuses_unallocatable (canAlloc : Nat → Bool) (slots h : Nat) (rest : List (Option Nat))
    (hgap : h > slots) (hno : canAlloc (h - slots) = false) : load canAlloc slots (some h :: rest) = none := by
  unfold load
  have : ¬ slots > h := Nat.lt_asymm hgap
  simp [this, hgap, hno]

/-- `resolve_temp_id` only answers for `!` + upper-case letter + digits -/
theorem resolveTempId_shape (s : Str) (n : Nat) (h : resolveTempId s = some n) :
    ∃ x rest, s = '!' :: x :: rest ∧ isUpperChar x = true := by
  unfold resolveTempId at h
  split at h
  · rename_i x rest
    split at h
    · exact ⟨x, rest, rfl, by assumption⟩
    · cases h
  · cases h

example : load (fun _ => true) 0 [none, some 3, none, some 7] = some [0, 3, 4, 7] := by decide
example : load (fun g => g < 1000) 0 [some 4000000000] = none := by decide
example : load (fun _ => true) 0 [none, none, some 1] = none := by decide
example : resolveTempId ['!', 'A', '4', '2'] = some 42 ∧ resolveTempId ['!', 'a', '1'] = none ∧ resolveTempId ['!', 'A'] = none := by decide

end Stam.UT.C19
