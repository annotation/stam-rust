import StamModel.Props.C02
/-
  C03 — Public identifiers resolve to exactly the live item that carries them.
  (Proved here for annotations, the item kind that is removed, stripped and cascaded; resources,
  datasets, keys and data follow the same `findIdx` discipline and are covered by correspondence.)
-/
namespace Stam.C03
open Stam Stam.C01 Stam.C02

/-- **resolve_exact**: an identifier resolves to `h` iff `h` is the live annotation carrying it -/
theorem resolve_exact (s : State) (hu : IdsUnique s) (i : String) (h : Nat) :
    s.resolveAnn (.id i) = some h ↔ ∃ a, getLive s.anns h = some a ∧ a.id = some i := by
  refine ⟨resolveAnn_id_some, ?_⟩
  rintro ⟨a, ha, hid⟩
  cases hr : s.resolveAnn (.id i) with
  | none => exact absurd hid (resolveAnn_id_none hr h a ha)
  | some j =>
    obtain ⟨a', ha', hid'⟩ := resolveAnn_id_some hr
    rw [hu j h a' a i ha' ha hid' hid]

/-- identifiers are unique per kind: two handles that an identifier could designate coincide -/
theorem resolve_unique (s : State) (i : String) (h1 h2 : Nat)
    (r1 : s.resolveAnn (.id i) = some h1) (r2 : s.resolveAnn (.id i) = some h2) : h1 = h2 := by
  rw [r1] at r2; cases r2; rfl

theorem IdsUnique.of_sub {s s' : State} (hu : IdsUnique s) (hs : Sub s s') : IdsUnique s' := by
  intro h1 h2 a1 a2 i l1 l2 e1 e2
  obtain ⟨b1, m1, i1, _, _⟩ := hs h1 a1 l1
  obtain ⟨b2, m2, i2, _, _⟩ := hs h2 a2 l2
  exact hu h1 h2 b1 b2 i m1 m2 (by rw [← i1]; exact e1) (by rw [← i2]; exact e2)

theorem annotate_unique (s : State) (id : Option String) (t : TargetReq) (ds : List DataReq)
    (hu : IdsUnique s) : IdsUnique (s.annotate id t ds).2 := by
  rcases annotate_cases s id t ds with ⟨h1, _⟩ | ⟨_, _, _, _, _, hp⟩
  · exact hu.of_sub (Sub.of_anns_eq h1)
  · exact hu.push hp

theorem unique_step (s : State) (op : StoreOp) (hi : Inv s) (hu : IdsUnique s) : IdsUnique (step s op).2 := by
  rcases step_effect s op hi with ⟨_, hs⟩ | ⟨_, hp⟩
  · exact hu.of_sub hs.sub
  · exact hu.push hp

theorem unique_foldl (ops : List StoreOp) : ∀ s, Inv s → IdsUnique s →
    IdsUnique (ops.foldl (fun s op => (step s op).2) s) :=
  fun _ hi hu => (List.foldlRecOn (motive := fun s => Inv s ∧ IdsUnique s) ops _ ⟨hi, hu⟩
    fun s h op _ => ⟨inv_step s op h.1, unique_step s op h.1 h.2⟩).2

/-- **after every history** identifiers of annotations are unique, hence resolution is exact -/
theorem unique_run (ops : List StoreOp) : IdsUnique (run ops) :=
  unique_foldl ops _ inv_empty (by intro h1 _ a1 _ _ l1; simp [State.empty, getLive] at l1)

theorem resolve_exact_run (ops : List StoreOp) (i : String) (h : Nat) :
    (run ops).resolveAnn (.id i) = some h ↔ ∃ a, getLive (run ops).anns h = some a ∧ a.id = some i :=
  resolve_exact _ (unique_run ops) i h

/-- **identifiers stop resolving the moment the item is removed** -/
theorem removed_unresolvable (s s' : State) (h : Nat) (a : AnnM) (i : String) (hu : IdsUnique s)
    (hl : getLive s.anns h = some a) (hid : a.id = some i) (r : Removed s s' h) :
    s'.resolveAnn (.id i) = none := by
  cases hr : s'.resolveAnn (.id i) with
  | none => rfl
  | some j =>
    obtain ⟨a', ha', hid'⟩ := resolveAnn_id_some hr
    cases hu j h a' a i (r.mono j a' ha') hl hid' hid
    rw [r.gone] at ha'; cases ha'

/-- **never redirected**: whatever later removals do, an identifier that still resolves designates
the same handle, and the item under it kept its identifier and target -/
theorem never_redirected (s s' : State) (hu : IdsUnique s) (hs : Sub s s') (i : String) (h : Nat)
    (hr : s'.resolveAnn (.id i) = some h) : s.resolveAnn (.id i) = some h := by
  obtain ⟨a', ha', hid'⟩ := (resolve_exact s' (hu.of_sub hs) i h).1 hr
  obtain ⟨a, ha, e1, _, _⟩ := hs h a' ha'
  exact (resolve_exact s hu i h).2 ⟨a, ha, by rw [← e1]; exact hid'⟩

theorem tempSlot_live {α} (letter : Char) (slots : List (Option α)) (id : String) (h : Nat)
    (ht : tempSlot letter slots id = some h) : (getLive slots h).isSome := by
  unfold tempSlot at ht
  split at ht
  · split at ht
    · cases ht; assumption
    · cases ht
  · cases ht

/-- **temporary identifiers resolve only to a live item of the right kind**, and every successful
lookup - public or temporary - yields a live annotation -/
theorem lookup_live (s : State) (id : String) (h : Nat) (hl : s.lookupAnn id = some h) :
    (getLive s.anns h).isSome := by
  unfold State.lookupAnn at hl
  split at hl
  · rename_i h' hr; cases hl; exact resolveAnn_live s _ _ hr
  · exact tempSlot_live 'A' s.anns id h hl

/-- **an item is found by the public identifier it carries, whatever the shape of that identifier** (also when it
looks like a temporary identifier) -/
theorem public_id_wins (s : State) (id : String) (h : Nat) (hr : s.resolveAnn (.id id) = some h) :
    s.lookupAnn id = some h := by
  unfold State.lookupAnn; rw [hr]

/-- a string that no live item carries as its identifier resolves exactly as a temporary identifier: to the live
slot it names, and to nothing otherwise -/
theorem temp_exact (s : State) (id : String) (n : Nat) (hn : s.resolveAnn (.id id) = none) (ht : tempId 'A' id = some n) (h : Nat) :
    s.lookupAnn id = some h ↔ (h = n ∧ (getLive s.anns n).isSome) := by
  unfold State.lookupAnn tempSlot
  rw [hn, ht]
  simp only []
  split
  · rename_i hl; constructor
    · intro h1; cases h1; exact ⟨rfl, hl⟩
    · rintro ⟨h1, _⟩; rw [h1]
  · rename_i hl; constructor
    · intro h1; cases h1
    · rintro ⟨_, h2⟩; exact absurd h2 hl

/-- a string that is neither carried by a live item nor a temporary identifier resolves to nothing -/
theorem lookup_none (s : State) (id : String) (hn : s.resolveAnn (.id id) = none) (ht : tempId 'A' id = none) :
    s.lookupAnn id = none := by
  unfold State.lookupAnn tempSlot
  rw [hn, ht]

/-- a temporary identifier of another kind's letter is not a temporary identifier here -/
theorem temp_wrong_letter (l : Char) (rest : List Char) (hl : l ≠ 'A') :
    tempId 'A' (String.ofList ('!' :: l :: rest)) = none := by
  simp [tempId, hl]

/-- stripping removes every identifier: nothing resolves by public id afterwards -/
theorem strip_unresolvable (s : State) (i : String) : s.stripAnn.resolveAnn (.id i) = none := by
  cases hr : s.stripAnn.resolveAnn (.id i) with
  | none => rfl
  | some j =>
    obtain ⟨a, ha, hid⟩ := resolveAnn_id_some hr
    obtain ⟨_, ha⟩ := getLive_eq_some.1 ha
    simp only [State.stripAnn, List.getElem_map, Option.map_eq_some_iff] at ha
    obtain ⟨_, _, rfl⟩ := ha
    cases hid

example : (run demo).resolveAnn (.id "a1") = some 1 ∧ (run demo).resolveAnn (.id "a0") = none ∧
    (run demo).lookupAnn "!A1" = some 1 ∧ (run demo).lookupAnn "!A0" = none ∧ (run demo).lookupAnn "!R1" = none := by decide
example : tempId 'A' "!A12" = some 12 ∧ tempId 'A' "!A+3" = none ∧ tempId 'A' "!A1x" = none ∧ tempId 'A' "!Éx" = none := by decide

end Stam.C03
