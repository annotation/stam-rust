import StamModel.Gen.CursorKernels
import StamModel.Lemmas.Offset
/-
  C04 — Offsets resolve to exactly the addressed code points, or are rejected.
  About Offset.lean: an offset is accepted exactly when it denotes a range inside the text, or inside an annotation's
  text (`accept_iff_res`, `accept_iff_sub`), else refused with an error, never a panic; reporting a range as an offset
  inverts resolving it, in all four alignment modes (`rereport_res`, `report_of_resolved`).
-/
namespace Stam.C04
open Stam

/-- the documented meaning: the offset denotes the range `[b,e)` with `0 ≤ b ≤ e ≤ len` -/
def Denotes (len : Nat) (o : Offset) (b e : Nat) : Prop :=
  o.c1.pos len = b ∧ o.c2.pos len = e ∧ b ≤ e ∧ e ≤ len

theorem beginAligned_ok_iff (len : Nat) (c : Cursor) (hc : c.WF) (n : Nat) :
    beginAligned len c = .ok n ↔ (c.pos len = n ∧ n ≤ len) := by
  cases c <;> simp only [beginAligned, Cursor.pos] <;> split <;> simp <;> omega

theorem beginAligned_never_panics (len : Nat) (c : Cursor) : ∀ m, beginAligned len c ≠ .panic m := by
  intro m
  cases c <;> simp only [beginAligned] <;> split <;> simp

/-- an offset is accepted exactly when it denotes `0 ≤ b ≤ e ≤ len`,
and then resolves to exactly that range. -/
theorem accept_iff_res (len : Nat) (o : Offset) (ho : o.WF) (b e : Nat) :
    resolveRes len o = .ok (b, e) ↔ Denotes len o b e := by
  rw [resolveRes_eq_ok, beginAligned_ok_iff _ _ ho.1, beginAligned_ok_iff _ _ ho.2, Denotes]
  omega

/-- resolution never panics: every offset is either accepted or refused with an error -/
theorem resolveRes_total (len : Nat) (o : Offset) : ∀ m, resolveRes len o ≠ .panic m := by
  have hc : ∀ c, (beginAligned len c).isPanic = false := fun c =>
    Out.isPanic_eq_false_iff.2 (beginAligned_never_panics len c)
  rw [← Out.isPanic_eq_false_iff, resolveRes_eq]
  refine Out.isPanic_bind (hc _) fun b _ => Out.isPanic_bind (hc _) fun e _ => ?_
  split <;> rfl

/-- an offset that denotes no valid range is refused with an error -/
theorem reject_res (len : Nat) (o : Offset) (ho : o.WF)
    (h : ¬ ∃ b e, Denotes len o b e) : ∃ c, resolveRes len o = .err c := by
  cases hr : resolveRes len o with
  | ok p => exact absurd ⟨p.1, p.2, (accept_iff_res len o ho p.1 p.2).1 hr⟩ h
  | err c => exact ⟨c, rfl⟩
  | panic m => exact absurd hr (resolveRes_total _ _ _)

/-- meaning of an offset relative to the parent selection `[pb,pe)` -/
def DenotesIn (pb pe : Nat) (o : Offset) (b e : Nat) : Prop :=
  o.c1.pos (pe - pb) + pb = b ∧ o.c2.pos (pe - pb) + pb = e ∧ pb ≤ b ∧ b ≤ e ∧ e ≤ pe

/-- the same relative to an annotation's text `[pb, pe)` -/
theorem accept_iff_sub (pb pe : Nat) (hp : pb ≤ pe) (o : Offset) (ho : o.WF) (b e : Nat) :
    resolveSub pb pe o = .ok (b, e) ↔ DenotesIn pb pe o b e := by
  rw [resolveSub_eq_map, Out.map_eq_ok]
  unfold DenotesIn
  constructor
  · rintro ⟨⟨x, y⟩, h, hxy⟩
    cases hxy
    have := (accept_iff_res _ o ho x y).1 h
    unfold Denotes at this
    omega
  · intro h
    refine ⟨(b - pb, e - pb), (accept_iff_res _ o ho _ _).2 ?_, ?_⟩
    · unfold Denotes
      omega
    · simp only [Prod.mk.injEq]
      omega

theorem resolveSub_total (pb pe : Nat) (o : Offset) : ∀ m, resolveSub pb pe o ≠ .panic m := by
  rw [resolveSub_eq_map]
  exact Out.map_ne_panic _ _ (resolveRes_total _ _)

theorem reject_sub (pb pe : Nat) (hp : pb ≤ pe) (o : Offset) (ho : o.WF)
    (h : ¬ ∃ b e, DenotesIn pb pe o b e) : ∃ c, resolveSub pb pe o = .err c := by
  cases hr : resolveSub pb pe o with
  | ok p => exact absurd ⟨p.1, p.2, (accept_iff_sub pb pe hp o ho p.1 p.2).1 hr⟩ h
  | err c => exact ⟨c, rfl⟩
  | panic m => exact absurd hr (resolveSub_total _ _ _ _)

/-- **every nesting depth**: whatever chain of relative offsets is accepted, the result lies inside
the text it started from (and is a well-formed range) -/
theorem chain_within (os : List Offset) (hos : ∀ o ∈ os, o.WF) :
    ∀ pb pe b e, pb ≤ pe → resolveChain (pb, pe) os = .ok (b, e) → pb ≤ b ∧ b ≤ e ∧ e ≤ pe := by
  induction os with
  | nil => intro pb pe b e hp h; simp [resolveChain] at h; omega
  | cons o os ih =>
    intro pb pe b e hp h
    simp only [resolveChain] at h
    cases hr : resolveSub pb pe o with
    | ok q =>
      rw [hr] at h
      obtain ⟨qb, qe⟩ := q
      have hd := (accept_iff_sub pb pe hp o (hos o (by simp)) qb qe).1 hr
      obtain ⟨_, _, h3, h4, h5⟩ := hd
      have := ih (fun o ho => hos o (by simp [ho])) qb qe b e h4 h
      omega
    | err c => rw [hr] at h; cases h
    | panic m => rw [hr] at h; cases h

theorem chain_total (os : List Offset) : ∀ p m, resolveChain p os ≠ .panic m := by
  induction os with
  | nil => intro p m; simp [resolveChain]
  | cons o os ih =>
    intro p m
    obtain ⟨pb, pe⟩ := p
    simp only [resolveChain]
    cases hr : resolveSub pb pe o with
    | ok q => exact ih q m
    | err c => simp
    | panic m' => exact absurd hr (resolveSub_total _ _ _ _)

/-- the accepted selection's text has exactly `e - b` code points, and they are the
ones at positions `b … e-1` of the text. -/
theorem text_exact {α} (chars : List α) (b e : Nat) (hbe : b ≤ e) (he : e ≤ chars.length) :
    (selText chars b e).length = e - b ∧ ∀ i, i < e - b → (selText chars b e)[i]? = chars[b + i]? := by
  unfold selText
  refine ⟨by simp; omega, ?_⟩
  intro i hi
  simp [hi]

/-- in all four modes the reported offset is well-formed
(end-aligned cursors ≤ 0), has the requested mode and re-resolves to the same range. -/
theorem rereport_res (m : OffsetMode) (len b e : Nat) (hbe : b ≤ e) (he : e ≤ len) :
    (reportRes m len b e).WF ∧ (reportRes m len b e).mode = m ∧
    resolveRes len (reportRes m len b e) = .ok (b, e) := by
  have hwf : (reportRes m len b e).WF := by
    cases m <;> simp [reportRes, Offset.WF, Cursor.WF] <;> omega
  refine ⟨hwf, ?_, (accept_iff_res _ _ hwf _ _).2 ?_⟩
  · cases m <;> rfl
  · cases m <;> simp [reportRes, Denotes, Cursor.pos] <;> omega

/-- **report is the inverse of resolve**: an accepted well-formed offset, reported back in its own alignment mode, is
the very offset that was given — so every range has exactly one well-formed offset per mode, and the offset a user
wrote is the one the library shows. (With `rereport_res`: resolve and report are mutually inverse on each mode.) -/
theorem report_of_resolved (len : Nat) (o : Offset) (ho : o.WF) (b e : Nat)
    (h : resolveRes len o = .ok (b, e)) : reportRes o.mode len b e = o := by
  obtain ⟨h1, h2, _, _⟩ := (accept_iff_res len o ho b e).1 h
  obtain ⟨w1, w2⟩ := ho
  cases o with
  | mk c1 c2 =>
    cases c1 <;> cases c2 <;>
      simp only [Cursor.pos, Cursor.WF, Offset.mode, reportRes, Offset.mk.injEq, Cursor.b.injEq, Cursor.e.injEq] at * <;>
      omega

/-- two well-formed offsets of the same mode that resolve to the same range are the same offset -/
theorem offset_unique_per_mode (len : Nat) (o o' : Offset) (ho : o.WF) (ho' : o'.WF) (hm : o.mode = o'.mode)
    (b e : Nat) (h : resolveRes len o = .ok (b, e)) (h' : resolveRes len o' = .ok (b, e)) : o = o' := by
  rw [← report_of_resolved len o ho b e h, ← report_of_resolved len o' ho' b e h', hm]

example : resolveRes 10 ⟨.e (-4), .e 0⟩ = .ok (6, 10) ∧ reportRes .ee 10 6 10 = ⟨.e (-4), .e 0⟩ := by decide

/-- the same relative to a parent selection `[pb, pe)` -/
theorem rereport_rel (m : OffsetMode) (pb pe b e : Nat) (h1 : pb ≤ b) (h2 : b ≤ e) (h3 : e ≤ pe) :
    ∃ o, reportRel m pb pe b e = .ok (some o) ∧ o.WF ∧ o.mode = m ∧ resolveSub pb pe o = .ok (b, e) := by
  obtain ⟨hwf, hm, hr⟩ := rereport_res m (pe - pb) (b - pb) (e - pb) (by omega) (by omega)
  refine ⟨_, reportRel_eq m pb pe b e h1 h2 h3, hwf, hm, ?_⟩
  rw [resolveSub_eq_map, hr, Out.map, Nat.add_sub_cancel' h1, Nat.add_sub_cancel' (by omega)]

/-! ### Non-vacuity -/
example : resolveRes 5 ⟨.b 1, .e (-1)⟩ = .ok (1, 4) ∧ Denotes 5 ⟨.b 1, .e (-1)⟩ 1 4 := by
  refine ⟨by decide, ?_⟩; simp [Denotes, Cursor.pos]
example : resolveRes 5 ⟨.b 4, .b 2⟩ = .err "InvalidOffset" ∧ resolveRes 5 ⟨.e (-6), .b 2⟩ = .err "CursorOutOfBounds" := by decide
example : resolveChain (0, 10) [⟨.b 2, .e (-1)⟩, ⟨.e (-3), .e 0⟩] = .ok (6, 9) := by decide
example : reportRel .ee 2 9 4 7 = .ok (some ⟨.e (-5), .e (-2)⟩) := by decide

/-! ### Tie to the source: cursor resolution is regenerated from the source on every run -/

/-- **the model's cursor resolution is the source's**, inside a selection: `Stam.Gen.beginAlignedSel` is what the
translator renders from `TextSelection::beginaligned_cursor` as it is in /repo now -/
theorem source_cursor_in_selection_is_the_model (b e : Nat) (c : Cursor) :
    Gen.beginAlignedSel b e c = beginAligned (e - b) c := by
  cases c <;> simp [Gen.beginAlignedSel, beginAligned]

/-- … and against a whole text: `Stam.Gen.beginAlignedText` is rendered from `Text::beginaligned_cursor` -/
theorem source_cursor_in_text_is_the_model (len : Nat) (c : Cursor) :
    Gen.beginAlignedText len c = beginAligned len c := by
  cases c <;> simp [Gen.beginAlignedText, beginAligned]

end Stam.C04
