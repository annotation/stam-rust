import StamModel.Lemmas.TextOps
import StamModel.Props.C12
/-
  C07 — Text search and partition operations agree with plain string operations.
  `findSpec` reports the leftmost non-overlapping occurrences of the range (`find_sound`, `find_complete`) and the
  iterator's byte arithmetic yields exactly it (`findIter_eq_spec`).
-/
namespace Stam.C07
open Stam Stam.C12

theorem sub_drop_take (text : List Char) (b e k len : Nat) (h : k + len ≤ e - b) :
    ((((text.drop b).take (e - b)).drop k).take len) = (text.drop (b + k)).take len :=
  slice_slice text b (e - b) k len h

/-- **sound, confined**: every reported selection lies inside the searched range `[b,e)` and its
text is exactly the needle -/
theorem find_sound (needle text : List Char) : ∀ fuel b e, ∀ p ∈ findSpec fuel needle text b e,
    b ≤ p.1 ∧ p.2 = p.1 + needle.length ∧ p.2 ≤ e ∧ (text.drop p.1).take needle.length = needle := by
  intro fuel b e
  fun_induction findSpec fuel needle text b e with
  | case1 | case2 | case3 | case4 =>
    intro p hp
    cases hp
  | case5 b fuel hne hr k hk ih =>
    obtain ⟨h1, h2, _⟩ := findFrom_window_some (by omega) (by omega) hk
    intro p hp
    rcases List.mem_cons.mp hp with rfl | hp
    · exact ⟨Nat.le_add_right b k, rfl, h1, h2⟩
    · have := ih p hp
      exact ⟨by omega, this.2⟩

/-- **ordered, non-overlapping** -/
theorem find_ordered (needle text : List Char) : ∀ fuel b e,
    (findSpec fuel needle text b e).Pairwise (fun p q => p.2 ≤ q.1) := by
  intro fuel b e
  fun_induction findSpec fuel needle text b e with
  | case1 | case2 | case3 | case4 => exact List.Pairwise.nil
  | case5 b fuel hne hr k hk ih =>
    exact List.pairwise_cons.mpr ⟨fun q hq => (find_sound needle text fuel _ e q hq).1, ih⟩

/-- **complete (leftmost, non-overlapping)**: every occurrence of the needle inside the searched
range is either reported or starts inside a reported occurrence -/
theorem find_complete (needle text : List Char) (hn : needle ≠ []) : ∀ fuel b e, e ≤ text.length → e - b < fuel →
    ∀ q, b ≤ q → q + needle.length ≤ e → (text.drop q).take needle.length = needle →
    ∃ p ∈ findSpec fuel needle text b e, p.1 ≤ q ∧ q < p.2 := by
  have hlenpos : 0 < needle.length := List.length_pos_iff.2 hn
  intro fuel b e he
  fun_induction findSpec fuel needle text b e with
  | case1 =>
    intro hf
    cases hf
  | case2 _ _ hne => exact absurd (List.isEmpty_iff.mp hne) hn
  | case3 b fuel _ hr =>
    intro _ q hbq hqe
    omega
  | case4 b fuel _ hr hk =>
    intro _ q hbq hqe hocc
    exact absurd hocc (findFrom_window_none he hk q hbq hqe)
  | case5 b fuel _ hr k hk ih =>
    intro hf q hbq hqe hocc
    obtain ⟨_, _, hmin⟩ := findFrom_window_some (by omega) he hk
    have hkq := hmin q hbq hqe hocc
    -- the occurrence at `q` begins inside the one just found, or after it, where the rest of the search finds it
    by_cases hcov : q < b + k + needle.length
    · exact ⟨_, List.mem_cons_self .., hkq, hcov⟩
    · obtain ⟨p, hp, h⟩ := ih (by omega) q (Nat.le_of_not_lt hcov) hqe hocc
      exact ⟨p, List.mem_cons_of_mem _ hp, h⟩

theorem widthsWF (text : List Char) : WidthsWF (widths text) :=
  List.forall_mem_map.2 fun c _ => Char.utf8Size_pos c

theorem bytesOf_take_drop (text : List Char) (b k : Nat) :
    prefixB (widths text) b + bytesOf ((text.drop b).take k) = prefixB (widths text) (b + k) := by
  rw [prefixB_add]
  simp [bytesOf, widths, prefixB, List.map_take, List.map_drop]

/-- **the byte arithmetic of `FindTextIter` is the code-point specification**: whatever the
position index contains, the iterator's coordinate translation yields exactly `findSpec` -/
theorem findIter_eq_spec (b2c : List (Nat × Nat)) (needle text : List Char)
    (hi : B2cWF b2c (widths text)) : ∀ fuel b e,
    findIter fuel b2c needle text b e = .ok (findSpec fuel needle text b e) := by
  have hw := widthsWF text
  have hlw : (widths text).length = text.length := List.length_map ..
  intro fuel b e
  fun_induction findSpec fuel needle text b e with
  | case1 => rfl
  | case2 _ _ hne => simp only [findIter, hne, if_true]
  | case3 _ _ hne hr => simp only [findIter, hne, hr, if_true, Bool.false_eq_true, if_false]
  | case4 _ _ hne hr hk => simp only [findIter, hne, hr, hk, Bool.false_eq_true, if_false]
  | case5 b fuel hne hr k hk ih =>
    obtain ⟨h1, h2, _⟩ := findFrom_window_some (by omega) (by omega) hk
    have hb1 : prefixB (widths text) b + bytesOf (((text.drop b).take (e - b)).take k)
        = prefixB (widths text) (b + k) := by
      rw [List.take_take, Nat.min_eq_left (by omega)]
      exact bytesOf_take_drop text b k
    have hb2 : prefixB (widths text) b + (bytesOf (((text.drop b).take (e - b)).take k) + bytesOf needle)
        = prefixB (widths text) (b + k + needle.length) := by
      rw [← Nat.add_assoc, hb1, ← bytesOf_take_drop text (b + k) needle.length, h2]
    simp only [findIter, hne, hr, hk, Bool.false_eq_true, if_false, hb1, hb2,
      charpos_of_boundary b2c _ hw hi (b + k) (by omega),
      charpos_of_boundary b2c _ hw hi (b + k + needle.length) (by omega), ih]

/-- what it means for a list of ranges to be the split of `hay` (located at `pos`) on `delim` -/
def IsSplit (delim : List Char) : List Char → Nat → List (Nat × Nat) → Prop
  | _, _, [] => False
  | hay, pos, [p] => p = (pos, pos + hay.length)
  | hay, pos, p :: q :: rest =>
    ∃ k, p = (pos, pos + k) ∧ k + delim.length ≤ hay.length ∧ OccursAt delim hay k ∧
      (∀ k', k' < k → ¬ OccursAt delim hay k') ∧
      IsSplit delim (hay.drop (k + delim.length)) (pos + k + delim.length) (q :: rest)

theorem splitIter_ne_nil (delim : List Char) : ∀ fuel hay pos, splitIter fuel delim hay pos ≠ [] := by
  intro fuel hay pos
  fun_cases splitIter fuel delim hay pos <;> exact List.cons_ne_nil _ _

/-- consecutive pieces, each delimiter really occurs (leftmost) between two
pieces, first piece starts where the searched text starts, last ends where it ends -/
theorem split_isSplit (delim : List Char) : ∀ fuel hay pos,
    IsSplit delim hay pos (splitIter fuel delim hay pos) := by
  intro fuel hay pos
  fun_induction splitIter fuel delim hay pos with
  | case1 | case2 => rfl
  | case3 hay pos fuel k hk ih =>
    obtain ⟨hfit, hocc, hmin⟩ := findFrom_zero hk
    cases hs : splitIter fuel delim (hay.drop (k + delim.length)) (pos + k + delim.length) with
    | nil => exact absurd hs (splitIter_ne_nil delim fuel _ _)
    | cons q rest => exact ⟨k, rfl, hfit, hocc, hmin, hs ▸ ih⟩

/-- **the pieces and the delimiters between them cover the searched text exactly** -/
theorem split_covers (delim : List Char) : ∀ (l : List (Nat × Nat)) hay pos, IsSplit delim hay pos l →
    (l.map (fun p => p.2 - p.1)).sum + (l.length - 1) * delim.length = hay.length := by
  intro l
  induction l with
  | nil =>
    intro hay pos h
    cases h
  | cons p rest ih =>
    intro hay pos h
    cases rest with
    | nil =>
      cases h
      simp
    | cons q rest =>
      obtain ⟨k, rfl, hfit, _, _, hrest⟩ := h
      have := ih _ _ hrest
      simp only [List.map_cons, List.sum_cons, List.length_cons, List.length_drop, Nat.add_sub_cancel,
        Nat.add_sub_cancel_left] at this ⊢
      rw [Nat.succ_mul, ← Nat.sub_add_cancel hfit, ← this]
      ac_rfl

theorem takeWhile_length_le {α} (p : α → Bool) (l : List α) : (l.takeWhile p).length ≤ l.length :=
  (List.takeWhile_sublist p).length_le

/-- the result is a sub-range of the searched range (also when everything is trimmable) -/
theorem trim_within (p : Char → Bool) (text : List Char) (b e : Nat) (hbe : b ≤ e) (he : e ≤ text.length) :
    b ≤ (trimRange p text b e).1 ∧ (trimRange p text b e).1 ≤ (trimRange p text b e).2 ∧
    (trimRange p text b e).2 ≤ e := by
  simp only [trimRange]
  have h1 := takeWhile_length_le p ((text.drop b).take (e - b))
  have h2 := takeWhile_length_le p
    (((text.drop b).take (e - b)).drop ((text.drop b).take (e - b) |>.takeWhile p).length).reverse
  rw [List.length_reverse, List.length_drop, slice_length he] at h2
  rw [slice_length he] at h1
  omega

/-- for cut positions strictly ascending and strictly inside `(cur,e)`,
the segments are consecutive, start at `cur`, end at `e`, and cut exactly at the given positions -/
theorem segmentation_partition : ∀ (cuts : List Nat) (cur e : Nat), cur < e →
    (cuts.Pairwise (· < ·)) → (∀ c ∈ cuts, cur < c ∧ c < e) →
    (segments cuts cur e).map (·.1) = cur :: cuts ∧ (segments cuts cur e).map (·.2) = cuts ++ [e] := by
  intro cuts
  induction cuts with
  | nil => intro cur e h _ _; simp [segments, h]
  | cons c cs ih =>
    intro cur e h hp hc
    have hcc := hc c (by simp)
    simp only [segments]
    have h1 : ¬ cur ≥ e := Nat.not_le.mpr h
    have h2 : c > cur := hcc.1
    have h3 : ¬ c > e := Nat.not_lt.mpr (Nat.le_of_lt hcc.2)
    simp only [h1, h2, h3, if_true, if_false]
    rw [List.pairwise_cons] at hp
    have := ih c e hcc.2 hp.2 (fun x hx => ⟨hp.1 x hx, (hc x (by simp [hx])).2⟩)
    simp [this.1, this.2]

example : findSpec 10 "ab".toList "xabyabab".toList 0 8 = [(1, 3), (4, 6), (6, 8)] := by decide
example : findSpec 10 "a".toList "aéa b".toList 1 5 = [(2, 3)] := by decide
example : splitIter 10 " ".toList "cd e".toList 3 = [(3, 5), (6, 7)] := by decide
example : trimRange (· == ' ') "  a b ".toList 0 6 = (2, 5) ∧ trimRange (· == ' ') "   ".toList 0 3 = (3, 3) := by decide
example : segments [2, 5] 0 7 = [(0, 2), (2, 5), (5, 7)] := by decide

end Stam.C07
