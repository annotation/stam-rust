import StamModel.DataValue
import StamModel.Lemmas.DvGen
import StamModel.Lemmas.Slots
/-
  C10 — Annotation data is a deduplicated vocabulary and data search equals a scan: the laws of `dvTest`, which the
  tie to the regenerated `Gen.dvTest` makes laws of `DataValue::test`; on the store model, adding data that exists
  changes nothing, a key under a new name keeps key names unique, and `find_data` is a scan of the live items.
-/
namespace Stam.C10
open Stam

-- not `simp [dvTest]`: the equations of a match of that size are generated anew at every call

theorem any_true (v : DV) : dvTest v .any = true := by
  cases v <;> rfl

/-- negation is the exact complement -/
theorem not_compl (v : DV) (o : DOp) : dvTest v (.not o) = !dvTest v o := by
  cases v <;> rfl

theorem and_all (v : DV) (os : List DOp) : dvTest v (.and os) = os.all (dvTest v) := by
  cases v <;> exact dvAll_eq_all _ os

theorem or_any (v : DV) (os : List DOp) : dvTest v (.or os) = os.any (dvTest v) := by
  cases v <;> exact dvAny_eq_any _ os

/-- De Morgan -/
theorem not_and (v : DV) (os : List DOp) : dvTest v (.not (.and os)) = dvTest v (.or (os.map .not)) := by
  rw [not_compl, and_all, or_any, List.any_map, List.not_all_eq_any_not]
  exact congrArg (List.any os) (funext fun o => (not_compl v o).symm)

theorem not_or (v : DV) (os : List DOp) : dvTest v (.not (.or os)) = dvTest v (.and (os.map .not)) := by
  rw [not_compl, and_all, or_any, List.all_map, List.not_any_eq_all_not]
  exact congrArg (List.all os) (funext fun o => (not_compl v o).symm)

theorem not_not (v : DV) (o : DOp) : dvTest v (.not (.not o)) = dvTest v o := by
  rw [not_compl, not_compl, Bool.not_not]

/-- equality is by type: an integer value is never matched by a float equality and vice versa; a string is never
matched by a numeric operator -/
theorem cross_type (n q : Int) (s : String) :
    dvTest (.int n) (.eqf q) = false ∧ dvTest (.flt q) (.eqi n) = false ∧
    dvTest (.str s) (.eqi n) = false ∧ dvTest (.str s) (.gtf q) = false ∧ dvTest (.str s) (.gt n) = false ∧
    dvTest .null (.eq s) = false :=
  ⟨rfl, rfl, rfl, rfl, rfl, rfl⟩

/-- **C10 (numeric cross-type comparison).** The ordering operators are "the value is numeric and greater (less) than
the operand": a float value (`q` quarters) and an integer operand, or an integer value and a float operand, are
compared by value. -/
theorem numeric_order (n q : Int) :
    (dvTest (.flt q) (.gt n) = true ↔ q > 4 * n) ∧ (dvTest (.flt q) (.ge n) = true ↔ q ≥ 4 * n) ∧
    (dvTest (.flt q) (.lt n) = true ↔ q < 4 * n) ∧ (dvTest (.flt q) (.le n) = true ↔ q ≤ 4 * n) ∧
    (dvTest (.int n) (.gtf q) = true ↔ 4 * n > q) ∧ (dvTest (.int n) (.gef q) = true ↔ 4 * n ≥ q) ∧
    (dvTest (.int n) (.ltf q) = true ↔ 4 * n < q) ∧ (dvTest (.int n) (.lef q) = true ↔ 4 * n ≤ q) :=
  -- each arm is the `decide` of the comparison on the right
  ⟨decide_eq_true_iff, decide_eq_true_iff, decide_eq_true_iff, decide_eq_true_iff,
    decide_eq_true_iff, decide_eq_true_iff, decide_eq_true_iff, decide_eq_true_iff⟩

/-- an integer operand and the float operand of the same value give the same answer, on integers and on floats -/
theorem operand_type_is_immaterial (v : DV) (n : Int) (hv : (∃ m, v = .int m) ∨ (∃ q, v = .flt q)) :
    dvTest v (.gt n) = dvTest v (.gtf (4 * n)) ∧ dvTest v (.ge n) = dvTest v (.gef (4 * n)) ∧
    dvTest v (.lt n) = dvTest v (.ltf (4 * n)) ∧ dvTest v (.le n) = dvTest v (.lef (4 * n)) := by
  rcases hv with ⟨m, rfl⟩ | ⟨q, rfl⟩
  · unfold dvTest
    refine ⟨?_, ?_, ?_, ?_⟩ <;> (apply decide_eq_decide.mpr; omega)
  · exact ⟨rfl, rfl, rfl, rfl⟩

theorem int_order (n m : Int) :
    (dvTest (.int n) (.gt m) = true ↔ n > m) ∧ (dvTest (.int n) (.ge m) = true ↔ n ≥ m) ∧
    (dvTest (.int n) (.lt m) = true ↔ n < m) ∧ (dvTest (.int n) (.le m) = true ↔ n ≤ m) ∧
    (dvTest (.int n) (.eqi m) = true ↔ n = m) :=
  ⟨decide_eq_true_iff, decide_eq_true_iff, decide_eq_true_iff, decide_eq_true_iff, beq_iff_eq⟩

/-- every arm of the source's `DataValue::test` computes what the model's `dvTest` computes (strings are never
datetimes here: comparing a datetime with a string is outside the model) -/
theorem source_test_is_the_model (v : DV) (o : DOp) : Gen.dvTest noDt v o = dvTest v o :=
  gen_dvTest_agrees o v

/-- so the laws above are laws of the source's function -/
theorem source_not_compl (v : DV) (o : DOp) : Gen.dvTest noDt v (.not o) = !Gen.dvTest noDt v o := by
  rw [source_test_is_the_model, source_test_is_the_model, not_compl]

theorem string_eq (s t : String) : dvTest (.str s) (.eq t) = true ↔ s = t :=
  beq_iff_eq

theorem setAt_same {α} (l : List (Option α)) (i : Nat) (a : α) (h : getLive l i = some a) :
    setAt l i (some a) = l := by
  obtain ⟨hi, e⟩ := getLive_eq_some.1 h
  rw [setAt, ← e, List.set_getElem_self]

/-- **dedup**: adding data without an identifier whose (key, value) already exists returns the
existing item and changes nothing -/
theorem insert_existing_is_noop (s : State) (set key val : String) (sh kh dh : Nat) (m : SetM)
    (h1 : s.resolveSet set = some sh) (h2 : getLive s.sets sh = some m)
    (h3 : m.keyByName key = some kh)
    (h4 : findIdx m.data (fun x => x.key == kh && x.val == val) = some dh) :
    s.insertData ⟨set, some key, some val, none⟩ = (some (sh, dh), s) := by
  unfold State.insertData
  simp only [h1, h2, h3, Option.bind_none, Option.isNone_none, Bool.not_false, Bool.true_and,
    Option.getD_some, h4]
  rw [setAt_same _ _ _ h2]
  simp only [if_true]

/-- the existing item really carries that key and value, and is the only answer the API can give:
every annotation built with the same (key, value) refers to this one item -/
theorem dedup_target (m : SetM) (kh dh : Nat) (val : String)
    (h4 : findIdx m.data (fun x => x.key == kh && x.val == val) = some dh) :
    ∃ d, getLive m.data dh = some d ∧ d.key = kh ∧ d.val = val := by
  obtain ⟨d, hd, hp⟩ := findIdx_key_some (fun x : DataM => (x.key, x.val)) (b := (kh, val)) h4
  exact ⟨d, hd, congrArg Prod.fst hp, congrArg Prod.snd hp⟩

/-- a new key is only created when no live key has that name -/
def KeysUnique (m : SetM) : Prop :=
  ∀ k1 k2 name, getLive m.keys k1 = some name → getLive m.keys k2 = some name → k1 = k2

theorem keyByName_exact (m : SetM) (hu : KeysUnique m) (name : String) (kh : Nat) :
    m.keyByName name = some kh ↔ getLive m.keys kh = some name := by
  refine ⟨findIdx_beq_some, fun h => ?_⟩
  cases hr : m.keyByName name with
  | none => exact absurd h (findIdx_beq_none hr kh)
  | some j => rw [hu j kh name (findIdx_beq_some hr) h]

theorem append_key_unique (m : SetM) (hu : KeysUnique m) (name : String) (hnew : m.keyByName name = none) :
    KeysUnique { m with keys := m.keys ++ [some name] } :=
  unique_append hu (findIdx_beq_none hnew)

/-- **find_data_scan**: searching a dataset by key and value test returns exactly the live data
items of that set that carry the key and whose value passes the test -/
theorem find_data_scan (s : State) (sid : String) (sh : Nat) (m : SetM) (key : Option String) (test : String → Bool)
    (h1 : s.resolveSet sid = some sh) (h2 : getLive s.sets sh = some m)
    (hk : ∀ k, key = some k → (m.keyByName k).isSome) (p : Nat × Nat) :
    p ∈ s.findData (some sid) key test ↔
      (p.1 = sh ∧ ∃ d, getLive m.data p.2 = some d ∧ test d.val = true ∧
        (∀ k, key = some k → m.keyByName k = some d.key)) := by
  -- the scan for a resolved key filter: none, or the handle of the key
  have scan : ∀ kf : Option Nat,
      p ∈ (List.range m.data.length).filterMap (fun dh => match getLive m.data dh with
        | some d => if (kf.isNone || kf == some d.key) && test d.val then some (sh, dh) else none
        | none => none) ↔
      p.1 = sh ∧ ∃ d, getLive m.data p.2 = some d ∧ test d.val = true ∧ ∀ kh, kf = some kh → kh = d.key := by
    intro kf
    simp only [List.mem_filterMap, List.mem_range]
    constructor
    · rintro ⟨dh, _, hx⟩
      cases hd : getLive m.data dh with
      | none => simp [hd] at hx
      | some d =>
        simp only [hd] at hx
        split at hx
        · rename_i hc
          cases hx
          simp only [Bool.and_eq_true, Bool.or_eq_true, Option.isNone_iff_eq_none, beq_iff_eq] at hc
          refine ⟨rfl, d, hd, hc.2, fun kh e => ?_⟩
          rcases hc.1 with h | h
          · rw [h] at e
            cases e
          · exact Option.some.inj (e.symm.trans h)
        · cases hx
    · rintro ⟨rfl, d, hd, ht, hkey⟩
      refine ⟨p.2, getLive_lt _ _ _ hd, ?_⟩
      cases kf with
      | none => simp [hd, ht]
      | some kh => simp [hd, ht, hkey kh rfl]
  unfold State.findData
  simp only [h1, h2]
  cases key with
  | none => exact (scan none).trans (by simp)
  | some k =>
    obtain ⟨kh, hkh⟩ := Option.isSome_iff_exists.mp (hk k rfl)
    simp only [hkh, Option.map_some]
    exact (scan (some kh)).trans (by simp [hkh])

example : dvTest (.int 3) (.or [.eq "3", .gt 5]) = true ∧ dvTest (.flt 4) (.eqi 1) = false ∧ dvTest (.flt 14) (.gt 3) = true ∧
    dvTest (.list [.int 1, .str "v0"]) (.has "v0") = true := by decide
example : (State.empty.insertData ⟨"s", some "k", some "s:v", none⟩).2.insertData ⟨"s", some "k", some "s:v", none⟩
    = (some (0, 0), (State.empty.insertData ⟨"s", some "k", some "s:v", none⟩).2) := by decide

end Stam.C10
