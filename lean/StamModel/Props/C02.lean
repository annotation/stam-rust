import StamModel.Lemmas.StoreOk
import StamModel.Props.C01
/-
  C02 — Removal cascades exactly and never leaves dangling references.
  Every reachable store is well-formed (`WF`, `wf_run`): index exact, targets older and live. On such a store
  remove_annotation removes exactly what depends on the annotation and leaves the survivors as they were
  (`remove_exact`), and removing an item that exists succeeds (`remove_annotation_ok`, …).
-/
namespace Stam.C02
open Stam Stam.C01

structure WF (s : State) : Prop where
  inv : Inv s
  lt : TargetsLt s
  live : AnnTargetsLive s

theorem AnnTargetsLive.of_shrinks {s s' : State} (h : AnnTargetsLive s) (hs : Shrinks s s') : AnnTargetsLive s' := by
  intro x a' hx t ht
  obtain ⟨a, ha, _, _, hk⟩ := hs.sub x a' hx
  have hl := h x a ha t (hk _ ht)
  cases hg : getLive s'.anns t with
  | some _ => rfl
  | none => exact absurd ht (hs.clean t hl hg x a' hx)

theorem WF.of_shrinks {s s' : State} (h : WF s) (hi : Inv s') (hs : Shrinks s s') : WF s' :=
  ⟨hi, h.lt.of_sub hs.sub, h.live.of_shrinks hs⟩

theorem annotate_live (s : State) (id : Option String) (t : TargetReq) (ds : List DataReq)
    (hl : AnnTargetsLive s) : AnnTargetsLive (s.annotate id t ds).2 := by
  rcases annotate_cases s id t ds with ⟨h1, _⟩ | ⟨_, _, _, _, _, hp⟩
  · exact hl.of_shrinks (Shrinks.of_anns_eq h1)
  · exact hl.push hp

theorem wf_empty : WF State.empty :=
  ⟨inv_empty, by intro x a h; simp [State.empty, getLive] at h, by intro x a h; simp [State.empty, getLive] at h⟩

theorem wf_step (s : State) (op : StoreOp) (h : WF s) : WF (step s op).2 := by
  rcases step_effect s op h.inv with ⟨hi, hs⟩ | ⟨_, hp⟩
  · exact h.of_shrinks hi hs
  · exact ⟨hp.inv h.inv, h.lt.push hp, h.live.push hp⟩

theorem wf_foldl (ops : List StoreOp) : ∀ s, WF s → WF (ops.foldl (fun s op => (step s op).2) s) :=
  fun _ h => List.foldlRecOn ops _ h fun s h op _ => wf_step s op h

/-- every reachable state is well-formed: index exact, targets older, **nothing dangles** -/
theorem wf_run (ops : List StoreOp) : WF (run ops) := wf_foldl ops _ wf_empty

/-- **after every history, every annotation's annotation-targets still resolve** -/
theorem no_dangling_annotation_targets (ops : List StoreOp) :
    ∀ x a, getLive (run ops).anns x = some a → ∀ t, Key.ann t ∈ a.fwd → (getLive (run ops).anns t).isSome :=
  (wf_run ops).live

/-- **removing an annotation that exists succeeds** -/
theorem remove_annotation_ok (ops : List StoreOp) (r : Ref) (h : Nat)
    (hres : (run ops).annHandleOf r = some h) (hl : (getLive (run ops).anns h).isSome) :
    ((run ops).rmAnn r).1 = .ok "-" :=
  rmAnn_ok _ r h (wf_run ops).inv (wf_run ops).lt hres hl

/-- **removing a resource that exists succeeds** -/
theorem remove_resource_ok (ops : List StoreOp) (id : String) (rh : Nat)
    (hres : (run ops).lookupRes id = some rh) : ((run ops).rmRes id).1 = .ok "-" :=
  rmRes_ok _ id rh (wf_run ops).inv (wf_run ops).lt hres

/-- **removing a dataset that exists succeeds** -/
theorem remove_dataset_ok (ops : List StoreOp) (id : String) (sh : Nat)
    (hres : (run ops).lookupSet id = some sh) : ((run ops).rmSet id).1 = .ok "-" :=
  rmSet_ok _ id sh (wf_run ops).inv (wf_run ops).lt hres

theorem dependants_gone (s s' : State) (h : Nat) (hw : WF s) (r : Removed s s' h) :
    ∀ y, DependsOn s h y → (getLive s.anns y).isSome → getLive s'.anns y = none := by
  intro y hd
  induction hd with
  | self => intro _; exact r.gone
  | @step y t htg _ ih =>
    intro _
    obtain ⟨a, ha, hk⟩ := htg
    have ht : (getLive s.anns t).isSome := hw.live y a ha t hk
    have hgt := ih ht
    cases hg : getLive s'.anns y with
    | none => rfl
    | some a' =>
      have := r.mono y a' hg
      rw [ha] at this; cases this
      exact absurd hk (r.clean t ht hgt y a hg)

/-- **remove_exact**: removing annotation `h` from a reachable state removes `y` if and only if `y`
depends on `h` (is `h`, or targets - anywhere in its selector - something that depends on `h`),
and every survivor is left exactly as it was. -/
theorem remove_exact (s s' : State) (h : Nat) (hw : WF s) (hr : s.removeAnn s.fuel h = some s') :
    (∀ y, (getLive s.anns y).isSome → (getLive s'.anns y = none ↔ DependsOn s h y)) ∧
    (∀ x a, getLive s'.anns x = some a → getLive s.anns x = some a) := by
  have r := removeAnn_removed _ s s' h hw.inv hr
  exact ⟨fun y hy => ⟨r.dep y hy, fun hd => dependants_gone s s' h hw r y hd hy⟩, r.mono⟩

/-- every removal operation touches nothing else: a survivor refers to no more than before, and
whatever was removed is referenced by no survivor -/
theorem removal_shrinks (s : State) (op : StoreOp) (hi : Inv s)
    (hop : match op with | .rmAnn _ | .rmRes _ | .rmSet _ | .rmData .. | .rmKey .. => True | _ => False) :
    Shrinks s (step s op).2 := by
  cases op with
  | rmAnn r => exact (rmAnn_shrunk s r hi).2
  | rmRes id => exact (rmRes_shrunk s id hi).2
  | rmSet id => exact (rmSet_shrunk s id hi).2
  | rmData set d strict => exact (rmData_shrunk s set d strict hi).2
  | rmKey set key strict => exact (rmKey_shrunk s set key strict hi).2
  | _ => cases hop

/-- in non-strict mode an annotation only loses the removed data, and survives if it has other data -/
theorem nonstrict_keeps_other_data (s : State) (sh dh ah : Nat) (a : AnnM)
    (ha : getLive s.anns ah = some a)
    (hrest : (a.data.filter (fun p => !(p.1 == sh && p.2 == dh))).isEmpty = false) :
    ∃ s', s.dropData sh dh false ah = some s' ∧
      getLive s'.anns ah = some { a with data := a.data.filter (fun p => !(p.1 == sh && p.2 == dh)) } := by
  unfold State.dropData
  rw [ha]
  simp only [hrest, Bool.false_and, Bool.false_eq_true, if_false]
  refine ⟨_, rfl, ?_⟩
  simp only []
  rw [getLive_setAt_of_lt (getLive_lt _ _ _ ha), if_pos rfl]

example : ((run demo).anns.map Option.isSome) = [false, true, false] := by decide
example : (getLive (run (demo.take 4)).anns 2).isSome = true ∧ DependsOn (run (demo.take 4)) 0 2 := by
  refine ⟨by decide, ?_⟩
  exact .step ⟨⟨some "a2", .simple (.ann 0), []⟩, by decide, by decide⟩ .self

end Stam.C02
