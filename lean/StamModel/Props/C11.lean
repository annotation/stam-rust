import StamModel.Gen.CborSchema
import StamModel.Lemmas.Cbor
/-
  C11 — CBOR round trip preserves the store and all of its indices.

  The schema table is regenerated from the source on every run; `schema_wf` is re-checked by the
  kernel against it (a duplicated or missing index, a newly skipped field, a codec given for one
  direction only makes it fail). `derive_roundtrip` is the generic argument: with a well-formed
  schema, decoding what was encoded returns every written field unchanged.
-/
namespace Stam.C11
open Stam.Cbor Stam.Gen

/-- every type stored in the binary format has pairwise distinct field indices, skips
only run-time state, and pairs every custom encoder with a decoder -/
theorem schema_wf : cborSchema.all TypeS.wf = true := by decide +kernel

/-- every reverse index and id map of the store is among the written fields -/
theorem indices_are_stored :
    ∀ n ∈ ["annotation_idmap", "resource_idmap", "dataset_idmap", "dataset_data_annotation_map",
           "textrelationmap", "resource_annotation_metamap", "dataset_annotation_metamap",
           "annotation_annotation_map", "key_annotation_metamap", "data_annotation_metamap",
           "annotations", "annotationsets", "resources", "config"],
      ((cborSchema.find? (fun t => t.name == "AnnotationStore")).map
        (fun t => t.fields.any (fun f => f.name == n && !f.skip && f.idx.isSome))) = some true := by
  decide +kernel

theorem resource_indices_are_stored :
    ∀ n ∈ ["text", "textlen", "textselections", "positionindex", "byte2charmap", "id", "intid"],
      ((cborSchema.find? (fun t => t.name == "TextResource")).map
        (fun t => t.fields.any (fun f => f.name == n && !f.skip && f.idx.isSome))) = some true := by
  decide +kernel

theorem dataset_indices_are_stored :
    ∀ n ∈ ["keys", "data", "key_idmap", "data_idmap", "key_data_map", "id", "intid"],
      ((cborSchema.find? (fun t => t.name == "AnnotationDataSet")).map
        (fun t => t.fields.any (fun f => f.name == n && !f.skip && f.idx.isSome))) = some true := by
  decide +kernel

variable {V : Type}

theorem lookup_encode (fs : List FieldS) (vals : List V) (hlen : vals.length = fs.length)
    (hnd : (writtenIdx fs).Nodup) :
    ∀ (k : Nat) (f : FieldS) (v : V), fs[k]? = some f → vals[k]? = some v → f.skip = false →
      ∀ i, f.idx = some i → lookupIdx (encodeFields fs vals) i = some v :=
  fun _ _ _ hf hv hs _ hi =>
    lookupIdx_encodeFields hlen hnd (List.mem_of_getElem? (List.getElem?_zip_eq_some.2 ⟨hf, hv⟩)) hs hi

/-- the whole record at once: decoding what was encoded is the record itself, with the skipped fields at their
default — as one equation between lists, not field by field -/
theorem derive_roundtrip_record (fs : List FieldS) (vals : List V) (dflt : V) (hlen : vals.length = fs.length)
    (hwf : fieldsWF fs = true) :
    decodeFields fs (encodeFields fs vals) dflt
      = (fs.zip vals).map (fun p => some (if p.1.skip then dflt else p.2)) := by
  simp only [fieldsWF, Bool.and_eq_true, List.all_eq_true, decide_eq_true_eq] at hwf
  obtain ⟨⟨hidx, hnd⟩, _⟩ := hwf
  -- `decodeFields` maps over the fields, which are the first components of the zip
  refine (congrArg (List.map _) (List.map_fst_zip (l₂ := vals) (Nat.le_of_eq hlen.symm)).symm).trans ?_
  rw [List.map_map]
  apply List.map_congr_left
  intro p hp
  cases hs : p.1.skip with
  | true => simp [hs]
  | false =>
    have hi := hidx p.1 (List.of_mem_zip hp).1
    simp only [hs, Bool.false_or] at hi
    obtain ⟨i, hi⟩ := Option.isSome_iff_exists.1 hi
    simp [hs, hi, lookupIdx_encodeFields hlen hnd hp hs hi]

/-- with a well-formed field list, decode (encode x) returns every written
field with the value it had, and every skipped field with the default -/
theorem derive_roundtrip (fs : List FieldS) (vals : List V) (dflt : V) (hlen : vals.length = fs.length)
    (hwf : fieldsWF fs = true) :
    ∀ (k : Nat) (f : FieldS) (v : V), fs[k]? = some f → vals[k]? = some v →
      (decodeFields fs (encodeFields fs vals) dflt)[k]? = some (some (if f.skip then dflt else v)) := by
  intro k f v hf hv
  rw [derive_roundtrip_record fs vals dflt hlen hwf, List.getElem?_map, (List.getElem?_zip_eq_some (z := (f, v))).2 ⟨hf, hv⟩]
  rfl

/-- applied to the generated table: every struct of the binary format round-trips field by field -/
theorem every_struct_roundtrips (t : TypeS) (ht : t ∈ cborSchema) (vals : List V) (dflt : V)
    (hlen : vals.length = t.fields.length) :
    ∀ (k : Nat) (f : FieldS) (v : V), t.fields[k]? = some f → vals[k]? = some v →
      (decodeFields t.fields (encodeFields t.fields vals) dflt)[k]? = some (some (if f.skip then dflt else v)) := by
  have := List.all_eq_true.1 schema_wf t ht
  simp only [TypeS.wf, Bool.and_eq_true] at this
  exact derive_roundtrip t.fields vals dflt hlen this.1.1.1

/-- enum dispatch: minicbor writes a variant's tag and the decoder takes the first variant carrying that tag. With
pairwise distinct tags the variant found for the tag of `v` is `v` — a duplicated `#[n(k)]` on two variants (which
still compiles) is what this excludes -/
theorem variant_dispatch : ∀ (vs : List VariantS) (v : VariantS) (i : Nat),
    (vs.filterMap (·.idx)).Nodup → v ∈ vs → v.idx = some i →
    vs.find? (fun w => w.idx == some i) = some v :=
  fun _ _ _ hnd hv hi => find?_key (·.idx) hnd hv hi

/-- applied to the generated table: every variant of every enum of the binary format is found again by its tag, and
its fields round-trip as a record -/
theorem every_variant_roundtrips (t : TypeS) (ht : t ∈ cborSchema) (v : VariantS) (hv : v ∈ t.variants)
    (vals : List V) (dflt : V) (hlen : vals.length = v.fields.length) :
    (∃ i, v.idx = some i ∧ t.variants.find? (fun w => w.idx == some i) = some v) ∧
    decodeFields v.fields (encodeFields v.fields vals) dflt = vals.map some := by
  have hwf := List.all_eq_true.1 schema_wf t ht
  simp only [TypeS.wf, Bool.and_eq_true, List.all_eq_true, decide_eq_true_eq] at hwf
  obtain ⟨⟨_, hvar⟩, hnd⟩ := hwf
  obtain ⟨⟨hidx, hfw⟩, hnoskip⟩ := hvar v hv
  obtain ⟨i, hi⟩ := Option.isSome_iff_exists.1 hidx
  refine ⟨⟨i, hi, variant_dispatch t.variants v i hnd hv hi⟩, ?_⟩
  rw [derive_roundtrip_record v.fields vals dflt hlen hfw]
  conv => rhs; rw [← List.map_snd_zip (l₁ := v.fields) (l₂ := vals) (Nat.le_of_eq hlen), List.map_map]
  apply List.map_congr_left
  intro p hp
  have hns := hnoskip p.1 (List.of_mem_zip hp).1
  simp only [Bool.not_eq_true'] at hns
  simp [hns]

example : (cborSchema.filter (fun t => !t.variants.isEmpty)).length > 3 := by decide +kernel
example : cborSchema.length > 20 ∧ (cborSchema.find? (fun t => t.name == "TextSelection")).isSome = true := by decide +kernel
example : fieldsWF [⟨"a", some 0, false, none, none, "u8"⟩, ⟨"b", some 0, false, none, none, "u8"⟩] = false := by decide

end Stam.C11
