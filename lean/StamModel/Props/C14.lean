import StamModel.Props.C02
/-
  C14 — Failed mutations leave the store observably unchanged.

  Full statement: `FullStatement` below (every failing operation returns the state it was given).
  It is proved for adding resources and datasets and for every removal. For `annotate` (and data
  insertion) it is FALSE on the present code - see `annotate_fail_not_noop` for the witness, which the
  harness replays on the implementation (known finding C14/annotate/*) - and what does hold is proved
  as `annotate_fail_partial`.
-/
namespace Stam.C14
open Stam Stam.C01 Stam.C02

def FullStatement : Prop := ∀ (s : State) (op : StoreOp), WF s → (step s op).1 = .err → (step s op).2 = s

theorem addRes_fail_noop (s : State) (id : String) (len : Nat) (h : (s.addRes id len).1 = .err) :
    (s.addRes id len).2 = s := by
  unfold State.addRes at h ⊢
  split
  · split <;> rfl
  · rename_i hn; simp [hn] at h

theorem addSet_fail_noop (s : State) (id : String) (ks : List String) (h : (s.addSet id ks).1 = .err) :
    (s.addSet id ks).2 = s := by
  unfold State.addSet at h ⊢
  split
  · split
    · split <;> rfl
    · rfl
  · rename_i hn; simp [hn] at h

theorem rmAnn_fail_noop (s : State) (r : Ref) (h : (s.rmAnn r).1 = .err) : (s.rmAnn r).2 = s := by
  unfold State.rmAnn at h ⊢
  split
  · rename_i hs; simp [hs] at h
  · rfl

theorem rmData_fail_noop (s : State) (set : String) (d : Ref) (strict : Bool)
    (h : (s.rmData set d strict).1 = .err) : (s.rmData set d strict).2 = s := by
  unfold State.rmData at h ⊢
  cases h1 : s.resolveSet set with
  | none => rfl
  | some sh =>
    simp only [h1] at h ⊢
    cases h2 : getLive s.sets sh with
    | none => rfl
    | some m =>
      simp only [h2] at h ⊢
      cases hdh : m.dataHandleOf d with
      | none => rfl
      | some dh =>
        simp only [hdh] at h ⊢
        cases h3 : s.rmDataH sh dh strict with
        | none => rfl
        | some s1 => rw [h3] at h; cases h

theorem rmRes_fail_noop (s : State) (id : String) (hw : WF s) (h : (s.rmRes id).1 = .err) :
    (s.rmRes id).2 = s := by
  cases hr : s.lookupRes id with
  | none => simp [State.rmRes, hr]
  | some rh =>
    have := rmRes_ok s id rh hw.inv hw.lt hr
    rw [this] at h; cases h

theorem rmSet_fail_noop (s : State) (id : String) (hw : WF s) (h : (s.rmSet id).1 = .err) :
    (s.rmSet id).2 = s := by
  cases hr : s.lookupSet id with
  | none => simp [State.rmSet, hr]
  | some sh =>
    have := rmSet_ok s id sh hw.inv hw.lt hr
    rw [this] at h; cases h

/-- **fail_noop_partial**: the full statement restricted to the operations for which it holds -/
theorem fail_noop_partial (s : State) (op : StoreOp) (hw : WF s)
    (hop : match op with | .addRes .. | .addSet _ | .rmAnn _ | .rmRes _ | .rmSet _ | .rmData .. => True | _ => False)
    (h : (step s op).1 = .err) : (step s op).2 = s := by
  cases op with
  | addRes id len => exact addRes_fail_noop s id len h
  | addSet id => exact addSet_fail_noop s id [] h
  | rmAnn r => exact rmAnn_fail_noop s r h
  | rmRes id => exact rmRes_fail_noop s id hw h
  | rmSet id => exact rmSet_fail_noop s id hw h
  | rmData set d strict => exact rmData_fail_noop s set d strict h
  | _ => cases hop

/-- a retry after a failed operation of these kinds behaves as if the attempt had never happened -/
theorem retry (s : State) (op op' : StoreOp) (hw : WF s)
    (hop : match op with | .addRes .. | .addSet _ | .rmAnn _ | .rmRes _ | .rmSet _ | .rmData .. => True | _ => False)
    (h : (step s op).1 = .err) : step (step s op).2 op' = step s op' := by
  rw [fail_noop_partial s op hw hop h]

/-- **what a failed `annotate` cannot do**: no annotation appears, disappears or changes, and no
reverse index changes (so every lookup of C01 answers as before) -/
theorem annotate_fail_partial (s : State) (id : Option String) (t : TargetReq) (ds : List DataReq)
    (h : (s.annotate id t ds).1 = .err) :
    (s.annotate id t ds).2.anns = s.anns ∧ (s.annotate id t ds).2.edges = s.edges := by
  rcases annotate_cases s id t ds with hf | ⟨_, _, _, _, hok, _⟩
  · exact hf
  · rw [hok] at h; cases h

/-- a simple target that does not resolve leaves the state untouched -/
theorem simple_target_fail_noop (s : State) (r : SelReq) (h : (s.target (.simple r)).1 = none) :
    (s.target (.simple r)).2 = s := by
  simp only [State.target] at h ⊢
  cases hs : s.selector r with
  | none => rfl
  | some p => rw [hs] at h; cases h

/-- **the negation of the full statement on the model** (and, replayed by the harness, on the
implementation): a failed `annotate` leaves a text selection behind -/
theorem annotate_fail_not_noop : ¬ FullStatement := by
  intro hf
  let s0 : State := (State.empty.addRes "r" 8).2
  have hw : WF s0 := wf_step _ (.addRes "r" 8) wf_empty
  have := hf s0 (.annotate (some "a") (.complex .dir [.text "r" ⟨.b 1, .b 3⟩, .set "nope"]) []) hw (by decide)
  revert this
  decide

example : ((State.empty.addRes "r" 8).2.addRes "r" 5).1 = .err := by decide
example : ((State.empty.addRes "r" 8).2.rmAnn (.id "x")).1 = .err := by decide

end Stam.C14
