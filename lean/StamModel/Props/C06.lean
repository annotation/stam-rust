import StamModel.Lemmas.Find
import StamModel.Props.C13
/-
  C06 — Related-text search returns exactly the selections in the relation.
  About Find.lean (`FindTextSelectionsIter`): outside the exact-offset shortcut the search returns the known selections
  in the relation to the reference set, the references left out, each once (`find_exact`, `search_exact_any_set`).
-/
namespace Stam.C06
open Stam Stam.C13

set_option hygiene false in
macro "op_cases' " op:ident : tactic =>
  `(tactic| rcases $op:ident with ⟨al, ng⟩ | ⟨al, ng⟩ | ⟨al, ng⟩ | ⟨al, ng, _ | l⟩ | ⟨al, ng, _ | l⟩ | ⟨al, ng, _ | l⟩
      | ⟨al, ng, w⟩ | ⟨al, ng, w⟩ | ⟨al, ng⟩ | ⟨al, ng⟩ | ⟨al, ng⟩ | ⟨al, ng⟩)

/-- the known selections are well-formed ranges inside the text -/
def SelsWF (sels : List TSel) (res : Res) : Prop := ∀ t ∈ sels, t.b ≤ t.e ∧ t.e ≤ res.len

/-- the chosen range is never inverted (so `BTreeMap::range` does not panic) -/
theorem plan_valid (op : Op) (refset : TSet) (n : Nat) (href : ∀ r ∈ refset.items, r.b ≤ r.e) :
    (plan op refset n).1 ≤ (plan op refset n).2.1 := by
  rcases plan_full_or_single op refset n with h | ⟨hn, r, hr⟩
  · rw [h]
    exact Nat.zero_le _
  · have := href r (by simp [hr])
    op_cases' op <;> cases hn <;> (try cases w) <;>
      simp only [plan, hr, Op.neg, Bool.false_eq_true, ↓reduceIte] <;> omega

/-- **coverage**: every known selection that satisfies the relation lies in the scanned range -/
theorem plan_covers (op : Op) (refset : TSet) (res : Res) (t : TSel)
    (ht : t.b ≤ t.e ∧ t.e ≤ res.len) (href : ∀ r ∈ refset.items, r.b ≤ r.e)
    (hrel : setTest op refset t res = true) :
    match (plan op refset res.len).2.2 with
    | .fwd => (plan op refset res.len).1 ≤ t.b ∧ t.b < (plan op refset res.len).2.1
    | .bwd => (plan op refset res.len).1 ≤ t.e ∧ t.e < (plan op refset res.len).2.1 := by
  rcases plan_full_or_single op refset res.len with h | ⟨hn, r, hr⟩
  · simp only [h]
    exact ⟨Nat.zero_le _, by omega⟩
  · have := href r (by simp [hr])
    obtain ⟨_, srt⟩ := refset
    cases hr
    rw [singleton_setTest] at hrel
    -- each arm of `plan` follows from the arm of `relPos` it is chosen for
    op_cases' op <;> cases hn <;> (try cases w) <;>
      simp only [test, relPos, Op.neg, Bool.false_eq_true, ↓reduceIte, Bool.and_eq_true, Bool.or_eq_true,
        decide_eq_true_eq, Bool.not_true, Bool.not_false, Bool.if_false_right, Bool.if_true_left] at hrel <;>
      simp only [plan, Op.neg, Bool.false_eq_true, ↓reduceIte] <;> omega

/-- outside the exact-offset shortcut `find` is the planned scan, filtered by the relation and without the references -/
theorem find_eq (op : Op) (refset : TSet) (sels : List TSel) (res : Res)
    (hop : specialFor op refset = false) (href : ∀ r ∈ refset.items, r.b ≤ r.e) :
    find op refset sels res = .ok ((match (plan op refset res.len).2.2 with
      | .fwd => fwdRange sels (plan op refset res.len).1 (plan op refset res.len).2.1
      | .bwd => bwdRange sels (plan op refset res.len).1 (plan op refset res.len).2.1).filter
        fun t => setTest op refset t res && !(refset.items.contains t)) := by
  have hv : ¬ (plan op refset res.len).1 > (plan op refset res.len).2.1 :=
    Nat.not_lt.2 (plan_valid op refset res.len href)
  simp only [find, hop, hv, Bool.false_eq_true, ↓reduceIte]
  rfl

/-- for every operator/modifier combination other than plain equality, the search
returns exactly the known selections `t` for which `refset OP t` holds, the references themselves
excluded, each once. -/
theorem find_exact (op : Op) (refset : TSet) (sels : List TSel) (res : Res)
    (hop : specialFor op refset = false) (hnd : sels.Nodup) (hsel : SelsWF sels res)
    (href : ∀ r ∈ refset.items, r.b ≤ r.e) :
    ∃ l, find op refset sels res = .ok l ∧ l.Nodup ∧
      ∀ t, t ∈ l ↔ (t ∈ sels ∧ setTest op refset t res = true ∧ t ∉ refset.items) := by
  refine ⟨_, find_eq op refset sels res hop href, ?_, fun t => ?_⟩
  · cases (plan op refset res.len).2.2
    · exact (nodup_fwdRange _ _ _ hnd).filter _
    · exact (nodup_bwdRange _ _ _ hnd).filter _
  · have hc := fun h1 (h2 : (setTest op refset t res && !(refset.items.contains t)) = true) =>
      plan_covers op refset res t (hsel t h1) href (Bool.and_eq_true_iff.1 h2).1
    have hp : (setTest op refset t res && !(refset.items.contains t)) = true ↔
        (setTest op refset t res = true ∧ t ∉ refset.items) := by simp
    rw [← hp]
    cases hd : (plan op refset res.len).2.2 <;> rw [hd] at hc
    · exact mem_filter_of_cover (mem_fwdRange ..) hc
    · exact mem_filter_of_cover (mem_bwdRange ..) hc

/-- for a single reference the set-level test is the pairwise relation of C13 -/
theorem find_exact_single (op : Op) (r : TSel) (srt : Bool) (sels : List TSel) (res : Res)
    (hop : specialFor op ⟨[r], srt⟩ = false) (hnd : sels.Nodup) (hsel : SelsWF sels res) (hr : r.b ≤ r.e) :
    ∃ l, find op ⟨[r], srt⟩ sels res = .ok l ∧ l.Nodup ∧
      ∀ t, t ∈ l ↔ (t ∈ sels ∧ test op r t res = true ∧ t ≠ r) := by
  obtain ⟨l, h1, h2, h3⟩ := find_exact op ⟨[r], srt⟩ sels res hop hnd hsel (by intro x hx; simp at hx; subst hx; exact hr)
  refine ⟨l, h1, h2, ?_⟩
  intro t; rw [h3, singleton_setTest]; simp

/-- **only equality returns the reference itself**: plain equality yields the known selection with
the reference's own range (if it is known), nothing else -/
theorem find_equals (al : Bool) (r : TSel) (srt : Bool) (sels : List TSel) (res : Res) :
    find (.equals al false) ⟨[r], srt⟩ sels res = .ok (if r ∈ sels then [r] else []) := by
  cases al <;> simp [find, specialFor, equalsSpecial]

theorem find_excludes_reference (op : Op) (refset : TSet) (sels : List TSel) (res : Res)
    (hop : specialFor op refset = false) (l : List TSel) (h : find op refset sels res = .ok l) :
    ∀ t ∈ l, t ∉ refset.items := by
  unfold find at h
  simp only [hop, Bool.false_eq_true, if_false] at h
  split at h
  · cases h
  · injection h with h
    subst h
    intro t ht
    simp only [List.mem_filter, Bool.and_eq_true, Bool.not_eq_true'] at ht
    simpa using ht.2.2

/-- the search never panics on well-formed references, whatever the operator -/
theorem find_total (op : Op) (refset : TSet) (sels : List TSel) (res : Res)
    (href : ∀ r ∈ refset.items, r.b ≤ r.e) : ∀ m, find op refset sels res ≠ .panic m := by
  intro m
  cases hop : specialFor op refset
  · simp [find_eq op refset sels res hop href]
  · simp [find, hop]

/-! ### reference sets that hold a selection more than once -/

theorem mem_distinctItems (l : List TSel) (x : TSel) : x ∈ distinctItems l ↔ x ∈ l := by
  induction l with
  | nil => simp [distinctItems]
  | cons a l ih =>
    simp only [distinctItems, List.mem_cons, List.mem_filter, ih, bne_iff_ne, ne_eq]
    by_cases hx : x = a <;> simp [hx]

theorem nodup_distinctItems (l : List TSel) : (distinctItems l).Nodup := by
  induction l with
  | nil => simp [distinctItems]
  | cons a l ih =>
    simp only [distinctItems, List.nodup_cons, List.mem_filter, bne_self_eq_false, Bool.false_eq_true, and_false,
      not_false_eq_true, true_and]
    exact ih.filter _

theorem distinctItems_of_nodup (l : List TSel) (h : l.Nodup) : distinctItems l = l := by
  induction l with
  | nil => rfl
  | cons a l ih =>
    rw [List.nodup_cons] at h
    simp only [distinctItems, ih h.2]
    congr 1
    apply List.filter_eq_self.mpr
    intro y hy
    simp only [bne_iff_ne, ne_eq]
    intro e; subst e; exact h.1 hy

/-- **each once, whatever the reference set holds**: the search with any reference set is the search with its
distinct members; for every operator/modifier combination other than plain equality it returns exactly the known
selections related to them, the references themselves excluded, each once. -/
theorem search_exact (op : Op) (refset : TSet) (sels : List TSel) (res : Res)
    (hop : specialFor op refset.distinct = false) (hnd : sels.Nodup) (hsel : SelsWF sels res)
    (href : ∀ r ∈ refset.items, r.b ≤ r.e) :
    ∃ l, search op refset sels res = .ok l ∧ l.Nodup ∧
      ∀ t, t ∈ l ↔ (t ∈ sels ∧ setTest op refset.distinct t res = true ∧ t ∉ refset.items) := by
  obtain ⟨l, h1, h2, h3⟩ := find_exact op refset.distinct sels res hop hnd hsel
    (by intro r hr; exact href r ((mem_distinctItems _ _).mp hr))
  refine ⟨l, h1, h2, ?_⟩
  intro t
  rw [h3]
  simp only [TSet.distinct, mem_distinctItems]

/-- plain equality returns the known selections among the references, each once — also when the reference set holds one
of them several times -/
theorem search_equals_each_once (refset : TSet) (sels : List TSel) (res : Res) :
    ∃ l, search (.equals false false) refset sels res = .ok l ∧ l.Nodup ∧ ∀ t ∈ l, t ∈ refset.items ∧ t ∈ sels := by
  unfold search find
  simp only [specialFor, ↓reduceIte, equalsSpecial]
  split
  next h =>
    refine ⟨_, rfl, nodup_distinctItems _, ?_⟩
    intro t ht
    refine ⟨(mem_distinctItems _ _).mp ht, ?_⟩
    have := List.all_eq_true.mp h t ht
    simpa using this
  next => exact ⟨[], rfl, by simp, by simp⟩

/-- a reference set that holds one selection, however many times, is searched as that selection is: equality with the
`all` modifier returns it -/
theorem search_repeated_single (op : Op) (r : TSel) (k : Nat) (srt : Bool) (sels : List TSel) (res : Res) :
    search op ⟨List.replicate (k + 1) r, srt⟩ sels res = search op ⟨[r], srt⟩ sels res := by
  have : ∀ k, distinctItems (List.replicate (k + 1) r) = [r] := by
    intro k
    induction k with
    | zero => simp [distinctItems]
    | succ k ih =>
      rw [List.replicate_succ, distinctItems, ih]
      simp
  simp [search, TSet.distinct, this, distinctItems]

/-- a reference set without repeated members is searched as it is -/
theorem search_of_nodup (op : Op) (refset : TSet) (sels : List TSel) (res : Res) (h : refset.items.Nodup) :
    search op refset sels res = find op refset sels res := by
  simp [search, TSet.distinct, distinctItems_of_nodup _ h]

/-! ### the relation test does not see repeated members -/

theorem leftmostScan_filter (x : TSel) : ∀ (l : List TSel) (m : TSel), m.b ≤ x.b →
    leftmostScan (l.filter (fun y => y != x)) (some m) = leftmostScan l (some m) := by
  intro l
  induction l with
  | nil => intro m _; rfl
  | cons y l ih =>
    intro m hm
    by_cases hy : y = x
    · subst hy
      have hnlt : ¬ y.b < m.b := Nat.not_lt.2 hm
      simp only [List.filter_cons, bne_self_eq_false, Bool.false_eq_true, ↓reduceIte, leftmostScan, hnlt]
      exact ih m hm
    · have hne : (y != x) = true := by simpa using hy
      simp only [List.filter_cons, hne, ↓reduceIte, leftmostScan]
      split
      · rename_i hlt; exact ih y (by omega)
      · exact ih m hm

theorem rightmostScan_filter (x : TSel) : ∀ (l : List TSel) (m : TSel), x.e ≤ m.e →
    rightmostScan (l.filter (fun y => y != x)) (some m) = rightmostScan l (some m) := by
  intro l
  induction l with
  | nil => intro m _; rfl
  | cons y l ih =>
    intro m hm
    by_cases hy : y = x
    · subst hy
      have hnlt : ¬ y.e > m.e := Nat.not_lt.2 hm
      simp only [List.filter_cons, bne_self_eq_false, Bool.false_eq_true, ↓reduceIte, rightmostScan, hnlt]
      exact ih m hm
    · have hne : (y != x) = true := by simpa using hy
      simp only [List.filter_cons, hne, ↓reduceIte, rightmostScan]
      split
      · rename_i hlt; exact ih y (by omega)
      · exact ih m hm

theorem leftmostScan_distinct : ∀ (l : List TSel) (acc : Option TSel),
    leftmostScan (distinctItems l) acc = leftmostScan l acc := by
  intro l
  induction l with
  | nil => intro acc; rfl
  | cons x xs ih =>
    intro acc
    cases acc with
    | none =>
      simp only [distinctItems, leftmostScan]
      rw [leftmostScan_filter x _ x (Nat.le_refl _), ih]
    | some m =>
      simp only [distinctItems, leftmostScan]
      split
      · rw [leftmostScan_filter x _ x (Nat.le_refl _), ih]
      · rename_i h; rw [leftmostScan_filter x _ m (by omega), ih]

theorem rightmostScan_distinct : ∀ (l : List TSel) (acc : Option TSel),
    rightmostScan (distinctItems l) acc = rightmostScan l acc := by
  intro l
  induction l with
  | nil => intro acc; rfl
  | cons x xs ih =>
    intro acc
    cases acc with
    | none =>
      simp only [distinctItems, rightmostScan]
      rw [rightmostScan_filter x _ x (Nat.le_refl _), ih]
    | some m =>
      simp only [distinctItems, rightmostScan]
      split
      · rw [rightmostScan_filter x _ x (Nat.le_refl _), ih]
      · rename_i h; rw [rightmostScan_filter x _ m (by omega), ih]

theorem all_distinctItems (l : List TSel) (p : TSel → Bool) : (distinctItems l).all p = l.all p := by
  rw [Bool.eq_iff_iff]
  simp only [List.all_eq_true, mem_distinctItems]

theorem leftmost_distinct (s : TSet) : s.distinct.leftmost = s.leftmost := by
  unfold TSet.leftmost TSet.distinct
  cases s.sorted with
  | true => cases h : s.items <;> simp [distinctItems]
  | false => simp [leftmostScan_distinct]

theorem rightmost_distinct (s : TSet) : s.distinct.rightmost = s.rightmost := by
  unfold TSet.rightmost TSet.distinct
  simp [rightmostScan_distinct]

/-- **a reference set is a set**: the relation test between a reference set and a selection gives the same answer for
the set and for the set of its distinct members, for every operator and modifier -/
theorem setTest_distinct (op : Op) (s : TSet) (c : TSel) (r : Res) : setTest op s.distinct c r = setTest op s c r := by
  have hemp : s.distinct.items.isEmpty = s.items.isEmpty := by
    cases h : s.items <;> simp [TSet.distinct, distinctItems, h]
  simp only [setTest, hemp, setRelPos_eq_pickAll,
    pickAll_congr (leftmost_distinct s) (rightmost_distinct s) (all_distinctItems s.items _)]

/-- **C06 (every reference set).** For every operator/modifier combination other than equality, the search returns
exactly the known selections `t` for which `refset OP t` holds — the set as it is given, a selection may be in it any
number of times —, the references themselves excluded, each once. -/
theorem search_exact_any_set (op : Op) (refset : TSet) (sels : List TSel) (res : Res)
    (hop : specialFor op refset.distinct = false) (hnd : sels.Nodup) (hsel : SelsWF sels res)
    (href : ∀ r ∈ refset.items, r.b ≤ r.e) :
    ∃ l, search op refset sels res = .ok l ∧ l.Nodup ∧
      ∀ t, t ∈ l ↔ (t ∈ sels ∧ setTest op refset t res = true ∧ t ∉ refset.items) := by
  obtain ⟨l, h1, h2, h3⟩ := search_exact op refset sels res hop hnd hsel href
  refine ⟨l, h1, h2, ?_⟩
  intro t
  rw [h3, setTest_distinct]

/-! ### Non-vacuity -/
example : search (.equals true false) ⟨[⟨0, 2⟩, ⟨0, 2⟩], false⟩ [⟨3, 5⟩, ⟨0, 2⟩] ⟨List.replicate 5 false⟩ = .ok [⟨0, 2⟩] := by decide
example : search (.equals false false) ⟨[⟨0, 2⟩, ⟨3, 5⟩, ⟨0, 2⟩], false⟩ [⟨3, 5⟩, ⟨0, 2⟩] ⟨List.replicate 5 false⟩ = .ok [⟨0, 2⟩, ⟨3, 5⟩] := by decide
example : find (.overlaps false false) ⟨[⟨4, 7⟩], false⟩ [⟨0, 2⟩, ⟨3, 5⟩, ⟨6, 8⟩, ⟨4, 7⟩, ⟨8, 8⟩] ⟨List.replicate 8 false⟩
    = .ok [⟨3, 5⟩, ⟨6, 8⟩] := by decide
example : find (.embeds false false) ⟨[⟨0, 8⟩], false⟩ [⟨8, 8⟩, ⟨0, 8⟩] ⟨List.replicate 8 false⟩ = .ok [⟨8, 8⟩] := by decide
example : find (.before false true none) ⟨[⟨2, 4⟩], false⟩ [⟨0, 1⟩, ⟨5, 6⟩] ⟨List.replicate 6 false⟩ = .ok [⟨0, 1⟩] := by decide
example : SelsWF [⟨0, 2⟩, ⟨3, 5⟩] ⟨List.replicate 5 false⟩ ∧ [(⟨0, 2⟩ : TSel), ⟨3, 5⟩].Nodup := by
  refine ⟨?_, by decide⟩
  intro t ht; simp at ht; rcases ht with rfl | rfl <;> simp [Res.len]

end Stam.C06
