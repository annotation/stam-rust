import StamModel.Lemmas.PosIndex
import StamModel.Lemmas.List
import StamModel.Props.C12
/-
  C12 — the position index as the code builds it (PosIndex.lean):

   * every index reached by milestones (of any intervals, at any time) and insertions of text selections is right in the
     sense Props/C12 assumes (`IdxWF`): so the conversions proved exact there are exact on every index the library can
     hold (`reachable_idxWF`, `conversion_exact_on_reachable`);
   * the positions in use, `position()` and `known_textselection()` are those of the text selections inserted — the
     milestones, whatever their interval and whenever they are made, change none of it (`positions_are_the_selections`,
     `milestones_change_no_answer`).
-/
namespace Stam.PI
open Stam Stam.C12 Stam.Coll

theorem asc_cons (k : Nat) (v : Item) (r : Index) : Asc ((k, v) :: r) ↔ (∀ x ∈ keys r, k < x) ∧ Asc r := by
  simp only [Asc, keys, List.map_cons, List.pairwise_cons]

theorem keys_cons (k : Nat) (v : Item) (r : Index) : keys ((k, v) :: r) = k :: keys r := rfl

theorem lookup_none_of_lt (m : Index) (k : Nat) (h : ∀ x ∈ keys m, k < x) : lookup m k = none := by
  induction m with
  | nil => rfl
  | cons a r ih =>
    rw [lookup, if_neg (Nat.ne_of_gt (h a.1 (List.mem_cons_self ..)))]
    exact ih fun x hx => h x (List.mem_cons_of_mem _ hx)

theorem mem_keys_upsert (m : Index) (k : Nat) (f : Option Item → Item) (x : Nat) :
    x ∈ keys (upsert m k f) ↔ x = k ∨ x ∈ keys m := by
  induction m with
  | nil => simp [upsert, keys]
  | cons a r ih =>
    obtain ⟨k0, v⟩ := a
    rcases Nat.lt_trichotomy k k0 with c | rfl | c
    · rw [upsert_cons_lt v r f c, keys_cons, List.mem_cons]
    · rw [upsert_cons_eq, keys_cons, keys_cons, List.mem_cons, or_self_left]
    · rw [upsert_cons_gt v r f c, keys_cons, keys_cons, List.mem_cons, List.mem_cons, ih]
      exact or_left_comm

theorem asc_upsert (m : Index) (k : Nat) (f : Option Item → Item) (hs : Asc m) : Asc (upsert m k f) := by
  induction m with
  | nil => exact List.pairwise_singleton ..
  | cons a r ih =>
    obtain ⟨k0, v⟩ := a
    obtain ⟨h1, h2⟩ := (asc_cons ..).mp hs
    rcases Nat.lt_trichotomy k k0 with c | rfl | c
    · rw [upsert_cons_lt v r f c]
      refine (asc_cons ..).mpr ⟨fun x hx => ?_, hs⟩
      rcases List.mem_cons.mp hx with rfl | hx
      · exact c
      · exact Nat.lt_trans c (h1 x hx)
    · rw [upsert_cons_eq]
      exact hs
    · rw [upsert_cons_gt v r f c]
      refine (asc_cons ..).mpr ⟨fun x hx => ?_, ih h2⟩
      rcases (mem_keys_upsert ..).mp hx with rfl | hx
      · exact c
      · exact h1 x hx

theorem lookup_upsert (m : Index) (k k' : Nat) (f : Option Item → Item) (hs : Asc m) :
    lookup (upsert m k f) k' = if k' = k then some (f (lookup m k)) else lookup m k' := by
  induction m with
  | nil => simp only [upsert, lookup, eq_comm]
  | cons a r ih =>
    obtain ⟨k0, v⟩ := a
    obtain ⟨h1, h2⟩ := (asc_cons ..).mp hs
    rcases Nat.lt_trichotomy k k0 with c | rfl | c
    · -- `k` is below every key: it is new
      rw [upsert_cons_lt v r f c, lookup_none_of_lt _ k fun x hx => by
        rcases List.mem_cons.mp hx with rfl | hx
        · exact c
        · exact Nat.lt_trans c (h1 x hx)]
      simp only [lookup, eq_comm]
    · rw [upsert_cons_eq]
      simp only [lookup, ↓reduceIte, eq_comm]
      split <;> rfl
    · rw [upsert_cons_gt v r f c]
      simp only [lookup, ih h2, if_neg (Nat.ne_of_lt c)]
      split
      · next c3 => rw [if_neg (c3 ▸ Nat.ne_of_lt c)]
      · rfl

theorem mem_of_lookup (m : Index) (k : Nat) (it : Item) (h : lookup m k = some it) : (k, it) ∈ m := by
  induction m with
  | nil => cases h
  | cons a r ih =>
    rw [lookup] at h
    split at h
    · next c =>
      cases h
      subst c
      exact List.mem_cons_self ..
    · exact List.mem_cons_of_mem _ (ih h)

theorem lookup_of_mem (m : Index) (k : Nat) (it : Item) (hs : Asc m) (h : (k, it) ∈ m) : lookup m k = some it := by
  induction m with
  | nil => cases h
  | cons a r ih =>
    obtain ⟨h1, h2⟩ := (asc_cons ..).mp hs
    rcases List.mem_cons.mp h with rfl | hr
    · exact if_pos rfl
    · have := h1 k (List.mem_map_of_mem (f := (·.1)) hr)
      rw [lookup, if_neg (Nat.ne_of_lt this)]
      exact ih h2 hr

/-! ### what holds of every index the code builds -/

theorem inv_empty (ws : List Nat) : Inv ws [] [] :=
  ⟨by simp [Asc, keys], by intro k it h; simp at h, by intro k it h; simp [lookup] at h, by intro b e h hm; simp at hm⟩

theorem idxWF_of_inv (ws : List Nat) (sels : List Sel) (m : Index) (h : Inv ws sels m) : IdxWF (proj m) ws :=
  List.forall_mem_map.2 fun x hx => h.entries x.1 x.2 hx

theorem mem_upsert (m : Index) (k : Nat) (f : Option Item → Item) (hs : Asc m) (k' : Nat) (it : Item)
    (h : (k', it) ∈ upsert m k f) : (k' = k ∧ it = f (lookup m k)) ∨ ((k', it) ∈ m ∧ k' ≠ k) := by
  have hl := lookup_of_mem _ k' it (asc_upsert m k f hs) h
  rw [lookup_upsert m k k' f hs] at hl
  by_cases c : k' = k
  · simp only [c, if_true, Option.some.injEq] at hl
    exact Or.inl ⟨c, hl.symm⟩
  · simp only [c, if_false] at hl
    exact Or.inr ⟨mem_of_lookup m k' it hl, c⟩

/-- the index is right exactly when it is right key by key -/
theorem inv_iff_tracks (ws : List Nat) (sels : List Sel) (m : Index) : Inv ws sels m ↔ Tracks ws sels sels m := by
  constructor
  · intro h
    refine ⟨h.asc, fun k => ⟨fun it hl => h.entries k it (mem_of_lookup m k it hl),
      fun p => ⟨?_, fun hm => ?_⟩, fun p => ⟨?_, fun hm => ?_⟩⟩⟩
    · rintro ⟨it, hl, hp⟩
      exact ((h.content k it hl).1 p).mp hp
    · obtain ⟨it, hl⟩ := Option.isSome_iff_exists.mp (h.present k p.1 p.2 hm).1
      exact ⟨it, hl, ((h.content k it hl).1 p).mpr hm⟩
    · rintro ⟨it, hl, hp⟩
      exact ((h.content k it hl).2 p).mp hp
    · obtain ⟨it, hl⟩ := Option.isSome_iff_exists.mp (h.present p.1 k p.2 hm).2
      exact ⟨it, hl, ((h.content k it hl).2 p).mpr hm⟩
  · rintro ⟨ha, h⟩
    refine ⟨ha, fun k it hm => (h k).pos it (lookup_of_mem m k it ha hm), fun k it hl => ⟨fun p => ?_, fun p => ?_⟩,
      fun b e hd hm => ⟨?_, ?_⟩⟩
    · rw [← (h k).b2e p]
      exact ⟨fun hp => ⟨it, hl, hp⟩, fun ⟨it', hl', hp⟩ => Option.some.inj (hl.symm.trans hl') ▸ hp⟩
    · rw [← (h k).e2b p]
      exact ⟨fun hp => ⟨it, hl, hp⟩, fun ⟨it', hl', hp⟩ => Option.some.inj (hl.symm.trans hl') ▸ hp⟩
    · obtain ⟨it, hl, _⟩ := ((h b).b2e (e, hd)).mpr hm
      exact Option.isSome_iff_exists.mpr ⟨it, hl⟩
    · obtain ⟨it, hl, _⟩ := ((h e).e2b (b, hd)).mpr hm
      exact Option.isSome_iff_exists.mpr ⟨it, hl⟩

/-- an `entry(k)` call keeps the index right when the entry it writes is -/
theorem Tracks.upsert {ws : List Nat} {B E B' E' : List Sel} {m : Index} (h : Tracks ws B E m) (k : Nat)
    (f : Option Item → Item) (hk : EntryOK ws B' E' k (some (f (lookup m k))))
    (hB : ∀ k' e hd, k' ≠ k → ((k', e, hd) ∈ B' ↔ (k', e, hd) ∈ B))
    (hE : ∀ k' b hd, k' ≠ k → ((b, k', hd) ∈ E' ↔ (b, k', hd) ∈ E)) : Tracks ws B' E' (PI.upsert m k f) := by
  refine ⟨asc_upsert m k f h.asc, fun k' => ?_⟩
  rw [lookup_upsert m k k' f h.asc]
  by_cases c : k' = k
  · rw [if_pos c, c]
    exact hk
  · rw [if_neg c]
    exact ⟨(h.entry k').pos, fun p => by rw [(h.entry k').b2e, hB k' _ _ c], fun p => by rw [(h.entry k').e2b, hE k' _ _ c]⟩

theorem mem_addB2e (e h bp : Nat) (o : Option Item) (p : Nat × Nat) :
    p ∈ (addB2e e h bp o).b2e ↔ p = (e, h) ∨ ∃ it, o = some it ∧ p ∈ it.b2e := by
  cases o with
  | none => simp [addB2e]
  | some it => simp only [addB2e, apply_ite Item.b2e, mem_append_new, Option.some.injEq, exists_eq_left']

theorem e2b_addB2e (e h bp : Nat) (o : Option Item) (p : Nat × Nat) :
    p ∈ (addB2e e h bp o).e2b ↔ ∃ it, o = some it ∧ p ∈ it.e2b := by
  cases o with
  | none => simp [addB2e]
  | some it => simp only [addB2e]; split <;> simp

theorem mem_addE2b (b h bp : Nat) (o : Option Item) (p : Nat × Nat) :
    p ∈ (addE2b b h bp o).e2b ↔ p = (b, h) ∨ ∃ it, o = some it ∧ p ∈ it.e2b := by
  cases o with
  | none => simp [addE2b]
  | some it => simp only [addE2b, apply_ite Item.e2b, mem_append_new, Option.some.injEq, exists_eq_left']

theorem b2e_addE2b (b h bp : Nat) (o : Option Item) (p : Nat × Nat) :
    p ∈ (addE2b b h bp o).b2e ↔ ∃ it, o = some it ∧ p ∈ it.b2e := by
  cases o with
  | none => simp [addE2b]
  | some it => simp only [addE2b]; split <;> simp

theorem bytepos_addB2e (e h bp : Nat) (o : Option Item) :
    (addB2e e h bp o).bytepos = match o with | some it => it.bytepos | none => bp := by
  cases o with
  | none => rfl
  | some it => simp only [addB2e]; split <;> rfl

theorem bytepos_addE2b (b h bp : Nat) (o : Option Item) :
    (addE2b b h bp o).bytepos = match o with | some it => it.bytepos | none => bp := by
  cases o with
  | none => rfl
  | some it => simp only [addE2b]; split <;> rfl

/-- the entry a milestone leaves is right -/
theorem EntryOK.milestone {ws : List Nat} {B E : List Sel} {k : Nat} {o : Option Item} (h : EntryOK ws B E k o)
    (hk : k ≤ ws.length) : EntryOK ws B E k (some (o.getD ⟨prefixB ws k, [], []⟩)) := by
  cases o with
  | some it => exact h
  | none =>
    refine ⟨fun it hit => ?_, fun p => ?_, fun p => ?_⟩
    · cases hit
      exact ⟨hk, rfl⟩
    · rw [← h.b2e p]
      simp
    · rw [← h.e2b p]
      simp

/-- the entry `inserted` writes at the begin of a text selection is right -/
theorem EntryOK.addB2e {ws : List Nat} {B E : List Sel} {b : Nat} {o : Option Item} (h : EntryOK ws B E b o)
    (hb : b ≤ ws.length) (e hd : Nat) :
    EntryOK ws (B ++ [(b, e, hd)]) E b (some (PI.addB2e e hd (prefixB ws b) o)) := by
  refine ⟨fun it hit => ?_, fun p => ?_, fun p => ?_⟩
  · cases hit
    refine ⟨hb, ?_⟩
    rw [bytepos_addB2e]
    cases o with
    | none => rfl
    | some old => exact (h.pos old rfl).2
  · simp only [Option.some.injEq, exists_eq_left', mem_addB2e, h.b2e, List.mem_append, List.mem_singleton,
      true_and, Prod.ext_iff, or_comm]
  · simp only [Option.some.injEq, exists_eq_left', e2b_addB2e, h.e2b]

/-- … and so is the entry it writes at the end -/
theorem EntryOK.addE2b {ws : List Nat} {B E : List Sel} {e : Nat} {o : Option Item} (h : EntryOK ws B E e o)
    (he : e ≤ ws.length) (b hd : Nat) :
    EntryOK ws B (E ++ [(b, e, hd)]) e (some (PI.addE2b b hd (prefixB ws e) o)) := by
  refine ⟨fun it hit => ?_, fun p => ?_, fun p => ?_⟩
  · cases hit
    refine ⟨he, ?_⟩
    rw [bytepos_addE2b]
    cases o with
    | none => rfl
    | some old => exact (h.pos old rfl).2
  · simp only [Option.some.injEq, exists_eq_left', b2e_addE2b, h.b2e]
  · simp only [Option.some.injEq, exists_eq_left', mem_addE2b, h.e2b, List.mem_append, List.mem_singleton,
      true_and, Prod.ext_iff, or_comm]

/-- a milestone keeps everything: an entry that is there stays as it is, a new one lists nothing — and nothing begins
or ends there, or there would have been an entry -/
theorem inv_milestone (ws : List Nat) (sels : List Sel) (m : Index) (c : Nat) (hc : c ≤ ws.length) (h : Inv ws sels m) :
    Inv ws sels (upsert m c (fun o => o.getD ⟨prefixB ws c, [], []⟩)) := by
  rw [inv_iff_tracks] at h ⊢
  exact h.upsert c _ ((h.entry c).milestone hc) (fun _ _ _ _ => Iff.rfl) (fun _ _ _ _ => Iff.rfl)

theorem inv_milestones (ws : List Nat) (sels : List Sel) (interval : Nat) (m : Index) (h : Inv ws sels m) :
    Inv ws sels (milestones ws interval m) := by
  refine List.foldlRecOn (motive := Inv ws sels) _ _ h fun m hm c hc => ?_
  split
  · exact inv_milestone ws sels m c (Nat.le_of_lt (List.mem_range.mp hc)) hm
  · exact hm

/-- inserting a text selection that lies in the text always succeeds and keeps everything, with the selection added -/
theorem inv_insertSel (ws : List Nat) (hw : WidthsWF ws) (sels : List Sel) (m : Index) (b e hd : Nat)
    (hbe : b ≤ e) (hel : e ≤ ws.length) (h : Inv ws sels m) :
    ∃ m', insertSel ws m b e hd = some m' ∧ Inv ws (sels ++ [(b, e, hd)]) m' := by
  have hidx := idxWF_of_inv ws sels m h
  have hbl : b ≤ ws.length := Nat.le_trans hbe hel
  refine ⟨upsert (upsert m b (addB2e e hd (prefixB ws b))) e (addE2b b hd (prefixB ws e)), by
    simp only [insertSel, utf8byte_naive (proj m) ws hw hidx b hbl, utf8byte_naive (proj m) ws hw hidx e hel], ?_⟩
  rw [inv_iff_tracks] at h ⊢
  have h1 : Tracks ws (sels ++ [(b, e, hd)]) sels (upsert m b (addB2e e hd (prefixB ws b))) :=
    h.upsert b _ ((h.entry b).addB2e hbl e hd) (fun k' _ _ c => by simp [c]) (fun _ _ _ _ => Iff.rfl)
  exact h1.upsert e _ ((h1.entry e).addE2b hel b hd) (fun _ _ _ _ => Iff.rfl) (fun k' _ _ c => by simp [c])

theorem known_spec (ws : List Nat) (sels : List Sel) (m : Index) (hinv : Inv ws sels m) (b e : Nat) :
    ((known m b e).isSome ↔ ∃ h, (b, e, h) ∈ sels) ∧ (∀ h, known m b e = some h → (b, e, h) ∈ sels) := by
  have hb := ((inv_iff_tracks ws sels m).mp hinv).entry b
  have key : ∀ h, known m b e = some h → (b, e, h) ∈ sels := by
    intro h hk
    simp only [known, Option.bind_eq_some_iff, Option.map_eq_some_iff] at hk
    obtain ⟨it, hl, p, hp, rfl⟩ := hk
    have hpe : p.1 = e := eq_of_beq (List.find?_some hp :)
    exact hpe ▸ (hb.b2e p).mp ⟨it, hl, List.mem_of_find?_eq_some hp⟩
  refine ⟨⟨fun hs => ?_, ?_⟩, key⟩
  · obtain ⟨h, hh⟩ := Option.isSome_iff_exists.mp hs
    exact ⟨h, key h hh⟩
  · rintro ⟨h, hm⟩
    obtain ⟨it, hl, hmem⟩ := (hb.b2e (e, h)).mpr hm
    simp only [known, hl, Option.bind_some, Option.isSome_map, List.find?_isSome]
    exact ⟨(e, h), hmem, by simp⟩

/-! ### every reachable index -/

theorem hasRange_iff (acc : List Sel) (b e : Nat) : hasRange acc b e = true ↔ ∃ h, (b, e, h) ∈ acc := by
  simp only [hasRange, List.any_eq_true, Bool.and_eq_true, beq_iff_eq]
  constructor
  · rintro ⟨⟨x, y, z⟩, hm, rfl, rfl⟩
    exact ⟨z, hm⟩
  · rintro ⟨h, hm⟩
    exact ⟨(b, e, h), hm, rfl, rfl⟩

/-- `known_textselection` misses exactly the ranges `accepted` does not have -/
theorem known_isNone {ws : List Nat} {sels : List Sel} {m : Index} (h : Inv ws sels m) (b e : Nat) :
    (known m b e).isNone = !hasRange sels b e := by
  rw [← Option.not_isSome, Bool.eq_iff_iff.mpr ((known_spec ws sels m h b e).1.trans (hasRange_iff sels b e).symm)]

/-- **a step of the index keeps it right** for the text selections `accepted` counts -/
theorem step_spec (ws : List Nat) (hw : WidthsWF ws) (s : St) (sels : List Sel) (op : Op)
    (h : Inv ws sels s.idx) (hn : s.nsel = sels.length) :
    Inv ws (acceptStep ws sels op) (step ws s op).idx ∧ (step ws s op).nsel = (acceptStep ws sels op).length := by
  cases op with
  | milestones i =>
    simp only [step, acceptStep]
    split
    · exact ⟨h, hn⟩
    · exact ⟨inv_milestones ws sels i s.idx h, hn⟩
  | sel b e =>
    simp only [step, acceptStep, known_isNone h, Bool.not_eq_true']
    split
    · next c =>
      obtain ⟨m', hm', hinv⟩ := inv_insertSel ws hw sels s.idx b e s.nsel c.1 c.2.1 h
      rw [hm']
      exact ⟨hn ▸ hinv, by simp [hn]⟩
    · exact ⟨h, hn⟩

theorem foldl_inv (ws : List Nat) (hw : WidthsWF ws) : ∀ (ops : List Op) (s : St) (sels : List Sel),
    Inv ws sels s.idx → s.nsel = sels.length →
    Inv ws (ops.foldl (fun acc op => match op with
        | .sel b e => if b ≤ e ∧ e ≤ ws.length ∧ hasRange acc b e = false then acc ++ [(b, e, acc.length)] else acc
        | .milestones _ => acc) sels) (ops.foldl (step ws) s).idx :=
  fun _ _ _ h hn => (List.foldl_rel (f := acceptStep ws) (r := fun sels s => Inv ws sels s.idx ∧ s.nsel = sels.length) (g := step ws) ⟨h, hn⟩
    fun op _ sels s h => step_spec ws hw s sels op h.1 h.2).1

/-- **every index the code builds is right**: after any history of milestone passes (any intervals, at any time) and
text selections, the keys ascend, every entry carries the byte position of its code point, and every entry lists
exactly the text selections that begin and end there -/
theorem reachable_inv (ws : List Nat) (hw : WidthsWF ws) (ops : List Op) : Inv ws (accepted ws ops) (run ws ops).idx :=
  foldl_inv ws hw ops {} [] (inv_empty ws) rfl

/-- … so it is an index in the sense Props/C12 assumes -/
theorem reachable_idxWF (ws : List Nat) (hw : WidthsWF ws) (ops : List Op) : IdxWF (proj (run ws ops).idx) ws :=
  idxWF_of_inv ws _ _ (reachable_inv ws hw ops)

/-- **conversion is exact on every index the library can hold**, whatever milestones and annotations made it -/
theorem conversion_exact_on_reachable (ws : List Nat) (hw : WidthsWF ws) (ops : List Op) (p : Nat) (hp : p ≤ ws.length) :
    utf8byte (proj (run ws ops).idx) ws p = .ok (prefixB ws p) :=
  utf8byte_naive _ ws hw (reachable_idxWF ws hw ops) p hp

/-! ### the text is replaced -/

theorem step_inv (ws : List Nat) (hw : WidthsWF ws) (s : St) (sels : List Sel) (op : Op)
    (h : Inv ws sels s.idx) (hn : s.nsel = sels.length) :
    ∃ sels', Inv ws sels' (step ws s op).idx ∧ (step ws s op).nsel = sels'.length :=
  ⟨_, step_spec ws hw s sels op h hn⟩

/-- what was built on the empty text is right on any text (there is only position 0) -/
theorem inv_of_empty_text (ws' : List Nat) (sels : List Sel) (m : Index) (h : Inv [] sels m) : Inv ws' sels m := by
  refine ⟨h.asc, ?_, h.content, h.present⟩
  intro k it hm
  obtain ⟨h1, h2⟩ := h.entries k it hm
  have hk : k = 0 := by simpa using h1
  subst hk
  exact ⟨Nat.zero_le _, by rw [h2]; simp [prefixB]⟩

def TOp.wf : TOp → Prop
  | .op _ => True
  | .retext ws' _ => WidthsWF ws'

/-- **a step of a history with text replacements keeps the index right** -/
theorem stepT_good (p : List Nat × St) (o : TOp) (ho : o.wf) (hp : GoodT p) : GoodT (stepT p o) := by
  obtain ⟨hw, sels, h, hn⟩ := hp
  cases o with
  | op o => exact ⟨hw, _, step_spec p.1 hw p.2 sels o h hn⟩
  | retext ws' i =>
    refine ⟨ho, ?_⟩
    simp only [stepT]
    split
    · next he =>
      have h0 : Inv ws' sels p.2.idx := inv_of_empty_text ws' sels p.2.idx (List.isEmpty_iff.mp he ▸ h)
      exact ⟨_, step_spec ws' ho p.2 sels (.milestones i) h0 hn⟩
    · exact ⟨_, step_spec ws' ho {} [] (.milestones i) (inv_empty ws') rfl⟩

theorem foldlT_inv : ∀ (ops : List TOp) (p : List Nat × St) (sels : List Sel), (∀ o ∈ ops, o.wf) → WidthsWF p.1 →
    Inv p.1 sels p.2.idx → p.2.nsel = sels.length →
    WidthsWF (ops.foldl stepT p).1 ∧ ∃ sels', Inv (ops.foldl stepT p).1 sels' (ops.foldl stepT p).2.idx := by
  intro ops p sels hwf hw h hn
  obtain ⟨hw', sels', h', _⟩ :=
    List.foldlRecOn (motive := GoodT) ops _ ⟨hw, sels, h, hn⟩ fun p hp o ho => stepT_good p o (hwf o ho) hp
  exact ⟨hw', sels', h'⟩

/-- **the index is right after any history, text replacements included**: whatever text the resource had before,
whatever milestones and selections were made on it, after `with_string` and whatever follows the index is an index of
the text the resource has now, and the conversions on it are exact -/
theorem reachableT_idxWF (ws0 : List Nat) (hw : WidthsWF ws0) (ops : List TOp) (hops : ∀ o ∈ ops, o.wf) :
    IdxWF (proj (runT ws0 ops).2.idx) (runT ws0 ops).1 := by
  obtain ⟨_, sels', h⟩ := foldlT_inv ops (ws0, {}) [] hops hw (inv_empty ws0) rfl
  exact idxWF_of_inv _ _ _ h

theorem conversion_exact_after_text_replacement (ws0 : List Nat) (hw : WidthsWF ws0) (ops : List TOp) (hops : ∀ o ∈ ops, o.wf)
    (p : Nat) (hp : p ≤ (runT ws0 ops).1.length) :
    utf8byte (proj (runT ws0 ops).2.idx) (runT ws0 ops).1 p = .ok (prefixB (runT ws0 ops).1 p) := by
  obtain ⟨hw', _, h⟩ := foldlT_inv ops (ws0, {}) [] hops hw (inv_empty ws0) rfl
  exact utf8byte_naive _ _ hw' (idxWF_of_inv _ _ _ h) p hp

/-- a replaced text keeps nothing of the old one: the history before a replacement of a non-empty text is immaterial -/
theorem retext_forgets (ws0 : List Nat) (before : List TOp) (ws' : List Nat) (i : Nat) (after : List TOp)
    (hne : (runT ws0 before).1 ≠ []) :
    runT ws0 (before ++ .retext ws' i :: after) = runT ws' (.op (.milestones i) :: after) := by
  simp only [runT, List.foldl_append, List.foldl_cons, stepT]
  have : (List.foldl stepT (ws0, {}) before).1.isEmpty = false := List.isEmpty_eq_false_iff.mpr hne
  simp [this]

/-! ### the positions in use -/

def selAt (mode : Mode) (sels : List Sel) (x : Nat) : Prop :=
  match mode with
  | .begin => ∃ e h, (x, e, h) ∈ sels
  | .end_ => ∃ b h, (b, x, h) ∈ sels
  | .both => (∃ e h, (x, e, h) ∈ sels) ∨ (∃ b h, (b, x, h) ∈ sels)

theorem nonempty_iff {α} (l : List α) : (!l.isEmpty) = true ↔ ∃ p, p ∈ l := by
  rw [Bool.not_eq_true', List.isEmpty_eq_false_iff_exists_mem]

/-- a position is listed when its entry is in use -/
theorem mem_positions_iff (m : Index) (hs : Asc m) (mode : Mode) (x : Nat) :
    x ∈ positions m mode ↔ ∃ it, lookup m x = some it ∧ inUse mode it = true := by
  simp only [positions, List.mem_map, List.mem_filter]
  constructor
  · rintro ⟨⟨k, it⟩, ⟨hm, hu⟩, rfl⟩
    exact ⟨it, lookup_of_mem m k it hs hm, hu⟩
  · rintro ⟨it, hl, hu⟩
    exact ⟨(x, it), ⟨mem_of_lookup m x it hl, hu⟩, rfl⟩

/-- an entry lists a begin exactly when a text selection begins there -/
theorem Tracks.begins {ws : List Nat} {B E : List Sel} {m : Index} (h : Tracks ws B E m) (x : Nat) :
    (∃ it, lookup m x = some it ∧ (!it.b2e.isEmpty) = true) ↔ ∃ e hd, (x, e, hd) ∈ B := by
  simp only [nonempty_iff]
  constructor
  · rintro ⟨it, hl, p, hp⟩
    exact ⟨p.1, p.2, ((h.entry x).b2e p).mp ⟨it, hl, hp⟩⟩
  · rintro ⟨e, hd, hm⟩
    obtain ⟨it, hl, hp⟩ := ((h.entry x).b2e (e, hd)).mpr hm
    exact ⟨it, hl, _, hp⟩

/-- an entry lists an end exactly when a text selection ends there -/
theorem Tracks.ends {ws : List Nat} {B E : List Sel} {m : Index} (h : Tracks ws B E m) (x : Nat) :
    (∃ it, lookup m x = some it ∧ (!it.e2b.isEmpty) = true) ↔ ∃ b hd, (b, x, hd) ∈ E := by
  simp only [nonempty_iff]
  constructor
  · rintro ⟨it, hl, p, hp⟩
    exact ⟨p.1, p.2, ((h.entry x).e2b p).mp ⟨it, hl, hp⟩⟩
  · rintro ⟨b, hd, hm⟩
    obtain ⟨it, hl, hp⟩ := ((h.entry x).e2b (b, hd)).mpr hm
    exact ⟨it, hl, _, hp⟩

theorem mem_positions (ws : List Nat) (sels : List Sel) (m : Index) (h : Inv ws sels m) (mode : Mode) (x : Nat) :
    x ∈ positions m mode ↔ selAt mode sels x := by
  rw [mem_positions_iff m h.asc]
  have h := (inv_iff_tracks ws sels m).mp h
  cases mode with
  | begin => exact h.begins x
  | end_ => exact h.ends x
  | both =>
    simp only [inUse, Bool.or_eq_true, and_or_left, exists_or]
    exact or_congr (h.begins x) (h.ends x)

theorem positions_sorted (m : Index) (hs : Asc m) (mode : Mode) : StrictSorted (positions m mode) :=
  List.Pairwise.sublist (List.Sublist.map _ List.filter_sublist) hs

/-- **the positions in use are those of the text selections inserted**, in ascending order, each once -/
theorem positions_are_the_selections (ws : List Nat) (hw : WidthsWF ws) (ops : List Op) (mode : Mode) :
    (∀ x, x ∈ positions (run ws ops).idx mode ↔ selAt mode (accepted ws ops) x) ∧
    StrictSorted (positions (run ws ops).idx mode) :=
  ⟨fun x => mem_positions ws _ _ (reachable_inv ws hw ops) mode x, positions_sorted _ (reachable_inv ws hw ops).asc mode⟩

def Op.isSel : Op → Bool
  | .sel .. => true
  | _ => false

theorem accepted_filter (ws : List Nat) (ops : List Op) : accepted ws (ops.filter Op.isSel) = accepted ws ops := by
  rw [accepted_eq, accepted_eq, List.foldl_filter]
  congr 1
  funext acc op
  cases op <;> rfl

/-- **milestones change no answer**: the positions in use are the same list with the milestone passes of a history —
whatever their intervals, whenever they happen — as without any -/
theorem milestones_change_no_answer (ws : List Nat) (hw : WidthsWF ws) (ops : List Op) (mode : Mode) :
    positions (run ws ops).idx mode = positions (run ws (ops.filter Op.isSel)).idx mode := by
  obtain ⟨m1, s1⟩ := positions_are_the_selections ws hw ops mode
  obtain ⟨m2, s2⟩ := positions_are_the_selections ws hw (ops.filter Op.isSel) mode
  refine pairwise_lt_ext s1 s2 fun x => ?_
  rw [m1, m2, accepted_filter]

/-- `position(x)` answers for exactly the positions in use: a milestone is no position -/
theorem position_iff (ws : List Nat) (hw : WidthsWF ws) (ops : List Op) (x : Nat) :
    (position (run ws ops).idx x).isSome ↔ selAt .both (accepted ws ops) x := by
  have hinv := reachable_inv ws hw ops
  rw [← mem_positions ws _ _ hinv .both x, mem_positions_iff _ hinv.asc, position]
  cases lookup (run ws ops).idx x <;> simp [Option.filter]

/-- `known_textselection(b, e)` finds a text selection exactly when one `[b, e)` was inserted, and answers with the handle
of one that was -/
theorem known_iff (ws : List Nat) (hw : WidthsWF ws) (ops : List Op) (b e : Nat) :
    ((known (run ws ops).idx b e).isSome ↔ ∃ h, (b, e, h) ∈ accepted ws ops) ∧
    (∀ h, known (run ws ops).idx b e = some h → (b, e, h) ∈ accepted ws ops) :=
  known_spec ws _ _ (reachable_inv ws hw ops) b e

/-! ### the premises are met -/

/-- "héllo wørld": widths of its code points; two milestone passes and three selections, one of them empty -/
def wsEx : List Nat := [1, 2, 1, 1, 1, 1, 1, 2, 1, 1, 1]
def opsEx : List Op := [.milestones 3, .sel 0 5, .sel 6 11, .milestones 2, .sel 6 11, .sel 4 4, .sel 3 99]

example : WidthsWF wsEx := by unfold WidthsWF wsEx; decide
example : positions (run wsEx opsEx).idx .begin = [0, 4, 6] ∧ positions (run wsEx opsEx).idx .end_ = [4, 5, 11] := by decide
example : keys (run wsEx opsEx).idx = [0, 2, 3, 4, 5, 6, 8, 9, 10, 11] := by decide
example : known (run wsEx opsEx).idx 6 11 = some 1 ∧ known (run wsEx opsEx).idx 0 4 = none ∧ (run wsEx opsEx).nsel = 3 := by decide
/-- `positions(Both)` lists where a text selection begins or ends: not the milestones, which are among the keys above -/
example : positions (run wsEx opsEx).idx .both = [0, 4, 5, 6, 11] := by decide

end Stam.PI
