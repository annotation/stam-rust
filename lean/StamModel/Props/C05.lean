import StamModel.Gen.JsonTags
import StamModel.Props.C04
/-
  C05 — STAM JSON round trip preserves the whole model.

  Proved here:
  * `selector_tags_agree` over tables REGENERATED from src/selector.rs on every run: for every
    selector kind the "@type" tag the writer emits names the reader's variant of the same kind,
    every field the reader requires is written, and nothing is written that the reader does not know;
  * the offset part of the round trip: the offset written for a selector (in its own alignment mode)
    reads back to the same absolute range with the same alignment (from C04);
  The document-level round trip (ids, temp-id gap re-creation, stand-off files) is tied by the
  `serial` correspondence family.
-/
namespace Stam.C05
open Stam Stam.Gen

def writeOk (row : String × String × List String) : Bool :=
  let (variant, tag, fields) := row
  -- the tag names the same kind
  tag == variant &&
  (match selectorReads.find? (fun r => r.1 == tag) with
   | none => false
   | some (_, rf) =>
     -- every required field is written, and every written field is known to the reader
     rf.all (fun (n, req) => !req || fields.contains n) && fields.all (fun n => rf.any (fun f => f.1 == n)))

/-- for every selector kind the writer's tag and fields are what the reader expects (generated tables) -/
theorem selector_tags_agree : selectorWrites.all writeOk = true := by decide +kernel

/-- all nine selector kinds are covered by the writer and by the reader -/
theorem all_kinds_covered :
    ∀ k ∈ ["ResourceSelector", "TextSelector", "AnnotationSelector", "DataSetSelector", "DataKeySelector",
           "AnnotationDataSelector", "MultiSelector", "CompositeSelector", "DirectionalSelector"],
      selectorWrites.any (fun r => r.1 == k) = true ∧ selectorReads.any (fun r => r.1 == k) = true := by decide +kernel

/-- the reader's tags are pairwise distinct (a tag determines the kind) -/
theorem reader_tags_distinct : (selectorReads.map (·.1)).Nodup := by decide +kernel

/-- **offsets survive**: the offset a text selector is written with (its own alignment mode) reads
back to the same absolute range, in the same mode -/
theorem written_offset_reads_back (m : OffsetMode) (len b e : Nat) (hbe : b ≤ e) (he : e ≤ len) :
    resolveRes len (reportRes m len b e) = .ok (b, e) ∧ (reportRes m len b e).mode = m :=
  ⟨(C04.rereport_res m len b e hbe he).2.2, (C04.rereport_res m len b e hbe he).2.1⟩

/-- and relative to an annotation's text -/
theorem written_relative_offset_reads_back (m : OffsetMode) (pb pe b e : Nat) (h1 : pb ≤ b) (h2 : b ≤ e) (h3 : e ≤ pe) :
    ∃ o, reportRel m pb pe b e = .ok (some o) ∧ o.mode = m ∧ resolveSub pb pe o = .ok (b, e) := by
  obtain ⟨o, r1, _, r3, r4⟩ := C04.rereport_rel m pb pe b e h1 h2 h3
  exact ⟨o, r1, r3, r4⟩

/-! ### Non-vacuity: a writer table with the defect found on the original tree is rejected -/
example : writeOk ("AnnotationDataSelector", "DataKeySelector", ["annotationset", "data"]) = false := by decide

end Stam.C05
