import StamModel.Lemmas.Transpose
/-
  C16 — Transposition preserves text.

  Statement (properties.jsonl): whenever transposing an annotation or selection over a transposition
  succeeds, [...] the transposed annotation lies in the other side's resource and selects text identical,
  piece by piece in order, to the source text; the new transposition it returns again links sides with
  identical text; and transposing back over it returns the original offsets. When the source is not covered
  by the transposition the call fails with an error [...].

  The theorems are about `StamModel/Transpose.lean` (the matching and mapping algorithm of
  `Transposable::transpose` for a text selection set). "Adding the returned annotations succeeds" and "the
  store is unchanged" (the call takes `&self`) are checked on the implementation by the `transpose` family,
  which also ties the model's answers to the library's.
-/
namespace Stam.TP.C16
open Stam.TP

abbrev Text := List Char

def textOf (texts : List Text) (f : Frag) : Text := ((texts.getD f.res []).drop f.b).take (f.e - f.b)

/-- a non-empty fragment inside its text -/
def FragOk (texts : List Text) (f : Frag) : Prop := f.b < f.e ∧ f.e ≤ (texts.getD f.res []).length

/-- fragment `j` of `s` and fragment `j` of `s'` hold the same text (what makes a transposition one) -/
def AlignedSides (texts : List Text) (s s' : Side) : Prop :=
  s.length = s'.length ∧
  ∀ (j : Nat) (f f' : Frag), s[j]? = some f → s'[j]? = some f' → textOf texts f = textOf texts f' ∧ FragOk texts f ∧ FragOk texts f'

instance (texts : List Text) (f : Frag) : Decidable (FragOk texts f) := by unfold FragOk; infer_instance

def Aligned (texts : List Text) (via : List Side) : Prop := ∀ s ∈ via, ∀ s' ∈ via, AlignedSides texts s s'

theorem textOf_length (texts : List Text) (f : Frag) (h : FragOk texts f) : (textOf texts f).length = f.e - f.b :=
  slice_length h.2

/-- a sub-range of a fragment, read through the fragment's text -/
theorem sub_text (T : Text) (b L rb n : Nat) (h : rb + n ≤ L) :
    ((T.drop b).take L |>.drop rb).take n = (T.drop (b + rb)).take n :=
  slice_slice T b L rb n h

/-- a range given relative to a fragment, read through the fragment's text -/
theorem textOf_rel (texts : List Text) (f : Frag) {rb re : Nat} (hle : rb ≤ re) (hfit : f.b + re ≤ f.e) :
    textOf texts ⟨f.res, f.b + rb, f.b + re⟩ = ((textOf texts f).drop rb).take (re - rb) := by
  unfold textOf
  rw [slice_slice _ _ _ _ _ (by omega), Nat.add_sub_add_left]

/-- **the mapping step.** A piece found in fragment `j` of the source side, mapped onto fragment `j` of an
aligned side, succeeds, lies inside that fragment, has the same length and selects identical text. -/
theorem mapPiece_text (texts : List Text) (side side' : Side) (res : Nat) (p : Piece)
    (hp : PieceIn side res p) (hal : AlignedSides texts side side') :
    ∃ (g f' : Frag), mapPiece side' p = .ok g ∧ side'[p.j]? = some f' ∧ g.res = f'.res ∧ f'.b ≤ g.b ∧ g.e ≤ f'.e ∧
      g.e - g.b = p.ae - p.ab ∧ textOf texts g = textOf texts ⟨res, p.ab, p.ae⟩ := by
  obtain ⟨f, hf, rfl, hab, hae, hlt, hfit⟩ := pieceIn_rel hp
  have hj : p.j < side'.length := hal.1 ▸ (List.getElem?_eq_some_iff.mp hf).1
  have hf' := List.getElem?_eq_getElem hj
  obtain ⟨htxt, hok, hok'⟩ := hal.2 p.j f _ hf hf'
  have hlen : f.e - f.b = side'[p.j].e - side'[p.j].b := by
    rw [← textOf_length _ _ hok, ← textOf_length _ _ hok', htxt]
  have hfit' : side'[p.j].b + p.re ≤ side'[p.j].e := by
    have := hok'.1
    omega
  have hle := Nat.le_of_lt hlt
  refine ⟨_, _, mapPiece_ok hf' hle hfit', hf', rfl, Nat.le_add_right .., hfit', ?_, ?_⟩
  · rw [hab, hae, Nat.add_sub_add_left, Nat.add_sub_add_left]
  · -- both are the same sub-range of the (equal) fragment texts
    rw [hab, hae, textOf_rel _ f hle hfit, textOf_rel _ _ hle hfit', htxt]

theorem mapPieces_spec (texts : List Text) (side side' : Side) (res : Nat) (hal : AlignedSides texts side side') :
    ∀ (ps : List Piece), (∀ p ∈ ps, PieceIn side res p) →
      ∃ gs, mapPieces side' ps = .ok gs ∧ gs.length = ps.length ∧
        gs.map (textOf texts) = ps.map (fun p => textOf texts ⟨res, p.ab, p.ae⟩) ∧
        (∀ (k : Nat) (g : Frag), gs[k]? = some g → ∃ (p : Piece) (f' : Frag), ps[k]? = some p ∧ side'[p.j]? = some f' ∧ g.res = f'.res ∧
          f'.b ≤ g.b ∧ g.e ≤ f'.e ∧ g.e - g.b = p.ae - p.ab) := by
  intro ps
  induction ps with
  | nil =>
    intro _
    exact ⟨[], rfl, rfl, rfl, nofun⟩
  | cons p ps ih =>
    intro hin
    obtain ⟨hp, hps⟩ := List.forall_mem_cons.mp hin
    obtain ⟨g, f', hm, hf', h1, h2, h3, h4, h5⟩ := mapPiece_text texts side side' res p hp hal
    obtain ⟨gs, hgs, hl, ht, hk⟩ := ih hps
    exact ⟨g :: gs, by simp only [mapPieces, hm, hgs], congrArg (· + 1) hl,
      by rw [List.map_cons, List.map_cons, h5, ht],
      forall_getElem?_cons ⟨p, f', rfl, hf', h1, h2, h3, h4⟩ hk⟩

/-- what the matching stage establishes, for the complex and the simple branch alike -/
def Found (side : Side) (res : Nat) (source : List (Nat × Nat)) (pieces : List Piece) : Prop :=
  ranges pieces = srcRanges source ∧ ∀ p ∈ pieces, PieceIn side res p

theorem simpleAll_spec (f : Frag) (res : Nat) :
    ∀ (source : List (Nat × Nat)) (ps : List Piece), (∀ s ∈ source, s.1 < s.2) →
      simpleAll f res source = some ps → Found [f] res source ps := by
  intro source ps hne h
  exact consumeAll_spec [f] res source ps hne (consumeAll_of_simpleAll f res source ps h)

theorem mapSides_spec (texts : List Text) (via : List Side) (src res : Nat) (side : Side) (pieces : List Piece)
    (hin : ∀ p ∈ pieces, PieceIn side res p) :
    ∀ (rest : List Side) (i : Nat), (∀ s ∈ rest, AlignedSides texts side s) →
      ∃ outs, mapSides via src res pieces i rest = .ok outs ∧ outs.length = rest.length ∧
        (∀ (k : Nat) (o : List Frag), outs[k]? = some o → o.map (textOf texts) = pieces.map (fun p => textOf texts ⟨res, p.ab, p.ae⟩) ∧ o.length = pieces.length) ∧
        (∀ (k : Nat) (o : List Frag), outs[k]? = some o → i + k = src → o = pieces.map (fun p => ⟨res, p.ab, p.ae⟩)) ∧
        (∀ (k : Nat) (o : List Frag) (sd : Side), outs[k]? = some o → rest[k]? = some sd → i + k ≠ src →
          ∀ (n : Nat) (g : Frag), o[n]? = some g → ∃ (p : Piece) (f' : Frag), pieces[n]? = some p ∧ sd[p.j]? = some f' ∧ g.res = f'.res ∧
            f'.b ≤ g.b ∧ g.e ≤ f'.e ∧ g.e - g.b = p.ae - p.ab) := by
  intro rest
  induction rest with
  | nil =>
    intro i _
    exact ⟨[], rfl, rfl, nofun, nofun, nofun⟩
  | cons s rest ih =>
    intro i hal
    obtain ⟨hs0, hrest⟩ := List.forall_mem_cons.mp hal
    obtain ⟨outs, ho, hl, ht, hs, hg⟩ := ih (i + 1) hrest
    -- `rest` is the suffix of `via` from side `i` on, so entry `k` of the result is side `i + k`
    by_cases hi : i = src
    · subst hi
      refine ⟨pieces.map (fun p => ⟨res, p.ab, p.ae⟩) :: outs, by simp only [mapSides, ho, ↓reduceIte],
        congrArg (· + 1) hl, ?_, ?_, ?_⟩
      · exact forall_getElem?_cons ⟨by rw [List.map_map]; rfl, List.length_map ..⟩ ht
      · exact forall_getElem?_cons (fun _ => rfl) fun k o hk hik => hs k o hk (by omega)
      · intro k o sd hk hsd hik
        cases k with
        | zero => exact absurd rfl hik
        | succ k => exact hg k o sd hk hsd (by omega)
    · obtain ⟨gs, hgs, hgl, hgt, hgk⟩ := mapPieces_spec texts side s res hs0 pieces hin
      refine ⟨gs :: outs, by simp only [mapSides, hi, hgs, ho, ↓reduceIte], congrArg (· + 1) hl, ?_, ?_, ?_⟩
      · exact forall_getElem?_cons ⟨hgt, hgl⟩ ht
      · exact forall_getElem?_cons (fun hik => absurd hik hi) fun k o hk hik => hs k o hk (by omega)
      · intro k o sd hk hsd hik
        cases k with
        | zero =>
          cases hk
          cases hsd
          exact hgk
        | succ k => exact hg k o sd hk hsd (by omega)

/-- the matching stage of `transpose`, both branches -/
theorem transpose_found (via : List Side) (simple : Bool) (res : Nat) (source : List (Nat × Nat)) (bi : Option Nat)
    (out : List (List Frag)) (hne : ∀ s ∈ source, s.1 < s.2)
    (h : transpose via simple res source bi = .ok out) :
    ∃ src side pieces, sourceSide via res bi = some src ∧ via[src]? = some side ∧ pieces ≠ [] ∧
      Found side res source pieces ∧ mapSides via src res pieces 0 via = .ok out := by
  unfold transpose at h
  split at h
  next => cases h
  next src hs =>
    split at h
    next => cases h
    next side hv =>
      -- with the result of the matching stage named, `split` takes the match on it and not the `if simple`
      generalize hfd : (if simple = true then _ else _) = found at h
      simp only [] at h
      split at h
      next => cases h
      next => cases h
      next pieces hnil =>
        refine ⟨src, side, pieces, hs, hv, hnil, ?_, h⟩
        cases simple with
        | true =>
          simp only [↓reduceIte] at hfd
          split at hfd
          next f => exact simpleAll_spec f res source _ hne hfd
          next => cases hfd
        | false => exact consumeAll_spec side res source _ hne hfd

/-- **C16 (covering).** If transposing succeeds, the source side of the result spells the source: the same
characters in the same order (a selection running over adjacent fragments is cut at the fragment borders,
nothing is lost and nothing added), and every piece lies inside a fragment of the source side. -/
theorem source_side_spells_source (via : List Side) (simple : Bool) (res : Nat) (source : List (Nat × Nat))
    (bi : Option Nat) (out : List (List Frag))
    (hne : ∀ s ∈ source, s.1 < s.2) (h : transpose via simple res source bi = .ok out) :
    ∃ src side pieces, sourceSide via res bi = some src ∧ via[src]? = some side ∧
      ranges pieces = srcRanges source ∧ (∀ p ∈ pieces, PieceIn side res p) := by
  obtain ⟨src, side, pieces, h1, h2, _, ⟨h3, h4⟩, _⟩ := transpose_found via simple res source bi out hne h
  exact ⟨src, side, pieces, h1, h2, h3, h4⟩

/-- **C16 (failure).** If some character of the source lies in no fragment of the source side, transposing
fails: no result is produced for part of the source. -/
theorem uncovered_source_fails (via : List Side) (simple : Bool) (res : Nat) (source : List (Nat × Nat))
    (bi : Option Nat) (hne : ∀ s ∈ source, s.1 < s.2)
    (hunc : ∃ s ∈ source, ∃ x, s.1 ≤ x ∧ x < s.2 ∧
      ∀ (src : Nat) (side : Side), sourceSide via res bi = some src → via[src]? = some side → ∀ f ∈ side, ¬ (f.res = res ∧ f.b ≤ x ∧ x < f.e)) :
    ∀ out, transpose via simple res source bi ≠ .ok out := by
  intro out h
  obtain ⟨src, side, pieces, h1, h2, h3, h4⟩ := source_side_spells_source via simple res source bi out hne h
  obtain ⟨s, hs, x, hx1, hx2, hno⟩ := hunc
  obtain ⟨p, hp, hxp⟩ := mem_ranges.mp (h3 ▸ mem_srcRanges.mpr ⟨s, hs, hx1, hx2⟩)
  obtain ⟨f, hf, hres, hb, he, -⟩ := h4 p hp
  exact hno src side h1 h2 f (List.mem_of_getElem? hf) ⟨hres, Nat.le_trans hb hxp.1, Nat.lt_of_lt_of_le hxp.2 he⟩

/-- **C16 (text identity).** If transposing over an aligned transposition succeeds, the result has one side
per side of the transposition; every side selects, piece by piece in order, text identical to the source
side's pieces (so the new transposition again links sides with identical text); the source side is the found
pieces themselves; every other side lies inside the fragments of the corresponding side of the transposition
(hence in that side's resource) and its pieces have the source pieces' lengths. -/
theorem transposed_text_identical (texts : List Text) (via : List Side) (simple : Bool) (res : Nat)
    (source : List (Nat × Nat)) (bi : Option Nat) (out : List (List Frag)) (hal : Aligned texts via)
    (hne : ∀ s ∈ source, s.1 < s.2) (h : transpose via simple res source bi = .ok out) :
    ∃ src side pieces, sourceSide via res bi = some src ∧ via[src]? = some side ∧
      out.length = via.length ∧
      out[src]? = some (pieces.map (fun p => ⟨res, p.ab, p.ae⟩)) ∧
      ranges pieces = srcRanges source ∧
      (∀ (i : Nat) (o : List Frag), out[i]? = some o →
        o.map (textOf texts) = pieces.map (fun p => textOf texts ⟨res, p.ab, p.ae⟩) ∧ o.length = pieces.length) ∧
      (∀ (i : Nat) (o : List Frag) (sd : Side), out[i]? = some o → via[i]? = some sd → i ≠ src →
        ∀ (n : Nat) (g : Frag), o[n]? = some g → ∃ (p : Piece) (f' : Frag), pieces[n]? = some p ∧ sd[p.j]? = some f' ∧ g.res = f'.res ∧
          f'.b ≤ g.b ∧ g.e ≤ f'.e ∧ g.e - g.b = p.ae - p.ab) := by
  obtain ⟨src, side, pieces, h1, h2, _, ⟨h3, h4⟩, h5⟩ := transpose_found via simple res source bi out hne h
  have hside : side ∈ via := List.mem_of_getElem? h2
  obtain ⟨outs, ho, hl, ht, hs, hg⟩ := mapSides_spec texts via src res side pieces h4 via 0 (fun s hs => hal side hside s hs)
  rw [h5] at ho
  cases ho
  refine ⟨src, side, pieces, h1, h2, hl, ?_, h3, fun i o hi => ht i o hi, ?_⟩
  · have hlt : src < out.length := hl ▸ (List.getElem?_eq_some_iff.mp h2).1
    have : out[src]? = some out[src] := List.getElem?_eq_getElem hlt
    rw [this, hs src out[src] this (Nat.zero_add src)]
  · intro i o sd hi hsd hne'
    exact hg i o sd hi hsd (by rwa [Nat.zero_add])

/-- every side of `out` has as many pieces as `T`, of the same lengths (what `transposed_text_identical`
establishes for the sides of a new transposition) -/
def SameShape (out : List (List Frag)) (T : List Frag) : Prop :=
  ∀ s ∈ out, s.length = T.length ∧
    ∀ (k : Nat) (f t : Frag), s[k]? = some f → T[k]? = some t → f.b ≤ f.e ∧ f.e - f.b = t.e - t.b

theorem mapPieces_of_get (side : Side) : ∀ (ps : List Piece) (gs : List Frag), ps.length = gs.length →
    (∀ (k : Nat) (p : Piece) (g : Frag), ps[k]? = some p → gs[k]? = some g → mapPiece side p = .ok g) →
    mapPieces side ps = .ok gs := by
  intro ps
  induction ps with
  | nil =>
    intro gs hl _
    cases gs with
    | nil => rfl
    | cons _ _ => cases hl
  | cons p ps ih =>
    intro gs hl hk
    cases gs with
    | nil => cases hl
    | cons g gs =>
      have h0 := hk 0 p g rfl rfl
      have hr := ih gs (Nat.succ.inj hl) fun k p' g' hp hg => hk (k + 1) p' g' hp hg
      simp only [mapPieces, h0, hr]

theorem mapPieces_self (s T : List Frag) (hl : s.length = T.length)
    (hs : ∀ (k : Nat) (f t : Frag), s[k]? = some f → T[k]? = some t → f.b ≤ f.e ∧ f.e - f.b = t.e - t.b) :
    mapPieces s (selfPieces 0 T) = .ok s := by
  apply mapPieces_of_get
  · rw [selfPieces_length, hl]
  · intro k p g hp hg
    have hk : k < T.length := hl ▸ (List.getElem?_eq_some_iff.mp hg).1
    obtain ⟨t, ht⟩ : ∃ t, T[k]? = some t := ⟨_, List.getElem?_eq_getElem hk⟩
    obtain ⟨h1, h2⟩ := hs k g t hg ht
    rw [selfPieces_get T 0 k t ht, Nat.zero_add] at hp
    cases hp
    have hfit : g.b + (t.e - t.b) = g.e := h2 ▸ Nat.add_sub_of_le h1
    exact (mapPiece_ok (p := selfPiece k t) hg (Nat.zero_le _) (Nat.le_of_eq hfit)).trans
      (congrArg Out.ok (congrArg (Frag.mk g.res g.b) hfit))

theorem mapSides_self (via : List Side) (tgt resT : Nat) (T : List Frag) (hres : ∀ t ∈ T, t.res = resT) :
    ∀ (rest : List Side) (i : Nat), SameShape rest T → (∀ (k : Nat) (s : Side), rest[k]? = some s → i + k = tgt → s = T) →
      mapSides via tgt resT (selfPieces 0 T) i rest = .ok rest := by
  intro rest
  induction rest with
  | nil => intro _ _ _; rfl
  | cons s rest ih =>
    intro i hsh htgt
    obtain ⟨⟨hl, hs⟩, hrest⟩ := List.forall_mem_cons.mp hsh
    have hr := ih (i + 1) hrest fun k s' hk hik => htgt (k + 1) s' hk (by omega)
    by_cases hi : i = tgt
    · subst hi
      simp only [mapSides, hr, selfPieces_frags T 0 hres, htgt 0 s rfl rfl, ↓reduceIte]
    · simp only [mapSides, hi, hr, mapPieces_self s T hl hs, ↓reduceIte]

/-- **C16 (transposing back).** Take the sides of a transposition whose side `tgt` lies in resource `resT` with
non-empty, pairwise disjoint pieces, every side having pieces of the same lengths (the shape of every new
transposition, by `transposed_text_identical`). Transposing side `tgt` over that transposition gives back
exactly its sides — in particular the original offsets on the source side. -/
theorem transposing_back (out : List (List Frag)) (tgt resT : Nat) (T : List Frag)
    (hT : out[tgt]? = some T) (hTne : T ≠ [])
    (hall : ∀ t ∈ T, t.res = resT ∧ t.b < t.e) (hpw : T.Pairwise Disjoint) (hshape : SameShape out T) :
    transpose out false resT (T.map (fun t => (t.b, t.e))) (some tgt) = .ok out := by
  have hms := mapSides_self out tgt resT T (fun t ht => (hall t ht).1) out 0 hshape fun k s hk hik => by
    rw [Nat.zero_add] at hik
    rw [hik, hT] at hk
    exact (Option.some.inj hk).symm
  have hc : consumeAll T resT _ = _ := consumeAll_self resT [] T hall hpw
  obtain ⟨t, T', rfl⟩ := List.exists_cons_of_ne_nil hTne
  simp only [transpose, sourceSide, hT, Bool.false_eq_true, ↓reduceIte, hc]
  exact hms

/-! ## non-vacuity: the re-segmentation example of the test suite (example 8c), and an uncovered source -/

example : transpose [[⟨0, 4, 6⟩, ⟨0, 6, 25⟩], [⟨1, 1, 3⟩, ⟨1, 5, 24⟩]] false 0 [(4, 9)] none
    = .ok [[⟨0, 4, 6⟩, ⟨0, 6, 9⟩], [⟨1, 1, 3⟩, ⟨1, 5, 8⟩]] := by decide

example : transpose [[⟨0, 4, 25⟩], [⟨1, 0, 21⟩]] false 0 [(0, 9)] none = .err "TransposeError" := by decide

example : Aligned ["abcab".toList, "xxab".toList] [[⟨0, 0, 2⟩], [⟨1, 2, 4⟩]] := by
  -- every fragment of every side is in its text and reads "ab"
  have key : ∀ s ∈ [[(⟨0, 0, 2⟩ : Frag)], [⟨1, 2, 4⟩]], s.length = 1 ∧
      ∀ f ∈ s, textOf ["abcab".toList, "xxab".toList] f = ['a', 'b'] ∧ FragOk ["abcab".toList, "xxab".toList] f := by
    decide
  intro s hs s' hs'
  obtain ⟨hl, h⟩ := key s hs
  obtain ⟨hl', h'⟩ := key s' hs'
  refine ⟨hl.trans hl'.symm, fun j f f' hf hf' => ?_⟩
  have hf := h f (List.mem_of_getElem? hf)
  have hf' := h' f' (List.mem_of_getElem? hf')
  exact ⟨hf.1.trans hf'.1.symm, hf.2, hf'.2⟩

/-- the back-transposition of example 8c's result (side 1, two disjoint pieces) is that result again -/
example : transpose [[⟨0, 4, 6⟩, ⟨0, 6, 9⟩], [⟨1, 1, 3⟩, ⟨1, 5, 8⟩]] false 1 [(1, 3), (5, 8)] (some 1)
    = .ok [[⟨0, 4, 6⟩, ⟨0, 6, 9⟩], [⟨1, 1, 3⟩, ⟨1, 5, 8⟩]] := by decide

end Stam.TP.C16
