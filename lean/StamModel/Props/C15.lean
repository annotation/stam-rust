import StamModel.Lemmas.Csv
/-
  C15 — STAM CSV round trip preserves structure, targets and the text of values.
  Proved: the cursor text round trip (sign ↔ alignment), the column split/pack round trip for
  identifiers without ';', and the alignment of all columns of a complex selector with its
  expanded sub-selectors. The file level (manifest, dataset files, temp ids) is tied by the `serial`
  correspondence family (with three known findings around temporary ids).
-/
namespace Stam.C15
open Stam Stam.Csv

theorem splitSemi_ne_nil (cs : List Char) : splitSemi cs ≠ [] := by
  induction cs with
  | nil => simp [splitSemi]
  | cons c cs ih =>
    simp only [splitSemi]
    split
    · simp
    · split <;> simp

theorem splitSemi_cons_nosemi (c : Char) (cs : List Char) (hc : c ≠ ';') :
    splitSemi (c :: cs) = (c :: (splitSemi cs).headD []) :: (splitSemi cs).tail := by
  simp only [splitSemi, hc, if_false]
  cases h : splitSemi cs with
  | nil => exact absurd h (splitSemi_ne_nil cs)
  | cons x xs => simp

/-- splitting `v ++ rest` where `v` has no ';' : `v` is glued to the first piece of `rest` -/
theorem splitSemi_append (v rest : List Char) (hv : ';' ∉ v) :
    splitSemi (v ++ rest) = (v ++ (splitSemi rest).headD []) :: (splitSemi rest).tail := by
  induction v with
  | nil =>
    simp only [List.nil_append]
    cases h : splitSemi rest with
    | nil => exact absurd h (splitSemi_ne_nil rest)
    | cons x xs => simp
  | cons c cs ih =>
    have hc : c ≠ ';' := by intro h; subst h; simp at hv
    have hcs : ';' ∉ cs := by intro h; exact hv (by simp [h])
    rw [List.cons_append, splitSemi_cons_nosemi c _ hc, ih hcs]
    simp

/-- pieces without ';', joined by ';', split into those pieces; `packColumn vs` puts a ';' in front of every piece -/
theorem splitSemi_join (v : List Char) (vs : List (List Char)) (h : ∀ x ∈ v :: vs, ';' ∉ x) :
    splitSemi (v ++ packColumn vs) = v :: vs := by
  induction vs generalizing v with
  | nil => simpa [packColumn, splitSemi] using splitSemi_append v [] (h v (by simp))
  | cons w ws ih =>
    have := ih w fun x hx => h x (List.mem_cons_of_mem _ hx)
    simp only [packColumn, List.flatMap_cons, List.cons_append] at this ⊢
    rw [splitSemi_append v _ (h v (by simp)), splitSemi, if_pos rfl, this]
    simp

/-- **column round trip**: packing values that contain no ';' and splitting again yields an empty
first field (the complex selector's own position) followed by exactly the values, in order -/
theorem split_packColumn (vals : List (List Char)) (h : ∀ v ∈ vals, ';' ∉ v) :
    splitSemi (packColumn vals) = [] :: vals :=
  splitSemi_join [] vals (by simpa using h)

/-- **alignment**: whatever mix of plain and range-compressed sub-selectors a complex selector has,
the i-th position of a column is the value of the i-th expanded sub-selector - in every column -/
theorem packGroups_aligned {α} (f : α → List Char) (gs : Groups α) (hne : ∀ g ∈ gs, g ≠ [])
    (h : ∀ g ∈ gs, ∀ x ∈ g, ';' ∉ f x) :
    splitSemi (packGroups f gs) = [] :: (gs.flatten.map f) := by
  rw [packGroups_eq_packColumn f gs hne]
  apply split_packColumn
  intro v hv
  simp only [List.mem_map, List.mem_flatten] at hv
  obtain ⟨x, ⟨g, hg, hx⟩, rfl⟩ := hv
  exact h g hg x hx

/-- **cursor text round trip**: what `Display` prints, `TryFrom<&str>` reads back as the same cursor
with the same alignment - for every well-formed cursor (end-aligned ≤ 0), `-0` included -/
theorem cursor_roundtrip (showNat : Nat → List Char) (parseNat : List Char → Option Nat)
    (hrt : ∀ n, parseNat (showNat n) = some n)
    (hdig : ∀ n, (showNat n).head? ≠ some '-') (hzero : showNat 0 = ['0'])
    (c : Cursor) (hc : c.WF) : parseCursor parseNat (showCursor showNat c) = .ok c := by
  cases c with
  | b n => rw [showCursor, parseCursor_of_head _ _ (hdig n), hrt]
  | e z =>
    simp only [Cursor.WF] at hc
    simp only [showCursor]
    by_cases h0 : z = 0
    · subst h0
      have hp : parseNat ['0'] = some 0 := by rw [← hzero]; exact hrt 0
      simp [parseCursor, hp]
    · have hz : z < 0 := Int.lt_iff_le_and_ne.2 ⟨hc, h0⟩
      simp only [h0, if_false, hz, if_true, parseCursor, hrt]
      congr 2; omega

example : splitSemi (packColumn ["r0".toList, "".toList, "r1".toList]) = [[], "r0".toList, [], "r1".toList] := by decide
example : splitSemi (packGroups (fun (x : String) => x.toList) [["", ""], ["s0"], ["s1"]])
    = [[], [], [], "s0".toList, "s1".toList] := by decide
/-- the packing found on the original tree (one position for a whole range-compressed group in the
dataset column) is NOT aligned: the third entry is read where the fourth belongs -/
example : splitSemi (";;s0;s1".toList) ≠ [[], [], [], "s0".toList, "s1".toList] := by decide
example : parseCursor (fun cs => if cs = ['0'] then some 0 else if cs = ['7'] then some 7 else none) ['-', '0'] = .ok (.e 0) ∧
    parseCursor (fun cs => if cs = ['0'] then some 0 else if cs = ['7'] then some 7 else none) ['7'] = .ok (.b 7) := by decide

end Stam.C15
