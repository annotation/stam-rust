import StamModel.Lemmas.Validation
import StamModel.Gen.ModePlan
/-
  C18 — Text validation accepts unchanged text and flags changed text.

  Statement (properties.jsonl): after protecting a store, in any mode, validation reports every annotation
  that selects text as valid and none as invalid [...]. If the store is then loaded against a text in which
  the characters selected by some annotation differ, validation reports that annotation as invalid, and
  reports only annotations whose selected characters differ.

  The theorems are about `StamModel/Validation.lean`; the correspondence check (`harness/src/fam/validation.rs`)
  runs `protect`/`validateOne` of the model and `protect_text`/`validate_text` of the library on the same
  stores, modes and edits. "Across a save and reload" is the JSON round trip of C05 applied to the protected
  store: it is exercised by the correspondence check (the reloaded store must give the model's answers), the
  serialisation itself is not modelled here.

  Checksum mode can only flag a change if SHA-1 does not collide on the two texts; that is the explicit
  hypothesis `NoCollision h t t'`.
-/
namespace Stam.TV.C18
open Stam.TV

variable {H : Type} [DecidableEq H]

/-- the checksum function separates these two texts -/
def NoCollision (h : Text → H) (t t' : Text) : Prop := h t' = h t → t' = t

/-- validation information that does not contradict the text `t` -/
def Consistent (h : Text → H) (i : Info H) (t : Text) : Prop := validateOne h i t ≠ some false

theorem consistent_none (h : Text → H) (t : Text) : Consistent h Info.none t :=
  validateOne_ne_false_iff.mpr ⟨nofun, nofun⟩

theorem plan_some (m : Mode) (len : Nat) : (m.plan len).1 = true ∨ (m.plan len).2 = true := by
  cases m <;> simp [Mode.plan]
  by_cases hl : len < 40 <;> simp [hl]

theorem protectWith_valid (h : Text → H) (dc dt : Bool) (hsome : dc = true ∨ dt = true) (t : Text) (i : Info H)
    (hc : Consistent h i t) (ht : t ≠ []) :
    validateOne h (protectWith h dc dt t i) t = some true := by
  refine validateOne_eq_true_iff.mpr ⟨validateOne_protectWith_ne_false dc dt hc, ?_⟩
  rw [protectWith_eq]
  rcases hsome with rfl | rfl
  · exact .inl (by simp [checksumOf_of_ne_nil h ht])
  · exact .inr (by simp [ht])

/-- **C18a (one annotation).** Whatever the mode and whatever (consistent) information was there before,
after protection an annotation that selects a non-empty text validates. -/
theorem protect_valid (h : Text → H) (m : Mode) (len : Nat) (t : Text) (i : Info H)
    (hc : Consistent h i t) (ht : t ≠ []) :
    validateOne h (protectOne h m len t i) t = some true :=
  protectWith_valid h _ _ (plan_some m len) t i hc ht

/-- an annotation that selects no characters gets no information and is reported missing, never invalid -/
theorem protect_empty_missing (h : Text → H) (m : Mode) (len : Nat) :
    protectOne h m len [] (Info.none : Info H) = Info.none ∧ validateOne h (Info.none : Info H) [] = none := by
  refine ⟨?_, rfl⟩
  rw [protectOne, protectWith_eq]
  simp [checksumOf, Info.none]

/-- protection is idempotent -/
theorem protect_idem (h : Text → H) (m : Mode) (len : Nat) (t : Text) (i : Info H) :
    protectOne h m len t (protectOne h m len t i) = protectOne h m len t i := by
  simp only [protectOne, protectWith_eq, Option.or_assoc, Option.or_self]

/-- protection never discards information -/
theorem protect_keeps (h : Text → H) (m : Mode) (len : Nat) (t : Text) (i : Info H) :
    (∀ c, i.checksum = some c → (protectOne h m len t i).checksum = some c) ∧
    (∀ r, i.text = some r → (protectOne h m len t i).text = some r) := by
  rw [protectOne, protectWith_eq]
  constructor
  · intro c hc
    rw [hc]
    rfl
  · intro r hr
    rw [hr]
    rfl

theorem protectWith_flag (h : Text → H) (dc dt : Bool) (hsome : dc = true ∨ dt = true) (t t' : Text)
    (ht : t ≠ []) (hcol : NoCollision h t t') (e : t' ≠ t) :
    validateOne h (protectWith h dc dt t Info.none) t' = some false := by
  -- otherwise the field that `hsome` names, taken from `t`, would agree with `t'`
  refine Decidable.not_not.mp fun (hc : validateOne h _ t' ≠ some false) => ?_
  rw [validateOne_ne_false_iff, protectWith_eq] at hc
  rcases hsome with rfl | rfl
  · have := hc.1 (h t) (by simp [Info.none, checksumOf_of_ne_nil h ht])
    unfold checksumOf at this
    split at this
    · cases this
    · exact e (hcol (Option.some.inj this))
  · exact e (hc.2 t (by simp [Info.none, ht])).symm

/-- **C18b (one annotation).** Freshly protected, then validated against a text `t'`: the verdict is
"invalid" exactly when `t'` differs from the protected text, and "valid" exactly when it is the same. -/
theorem flag_iff (h : Text → H) (m : Mode) (len : Nat) (t t' : Text) (ht : t ≠ [])
    (hcol : NoCollision h t t') :
    (validateOne h (protectOne h m len t Info.none) t' = some false ↔ t' ≠ t) ∧
    (validateOne h (protectOne h m len t Info.none) t' = some true ↔ t' = t) := by
  by_cases e : t' = t
  · subst e
    have := protect_valid h m len t' Info.none (consistent_none h t') ht
    simp [this]
  · have := protectWith_flag h _ _ (plan_some m len) t t' ht hcol e
    unfold protectOne
    simp [this, e]

/-- the same for information that was already present and consistent (protect keeps it) -/
theorem unchanged_valid (h : Text → H) (m : Mode) (len : Nat) (t : Text) (i : Info H)
    (hc : Consistent h i t) (ht : t ≠ []) : validateOne h (protectOne h m len t i) t ≠ some false := by
  rw [protect_valid h m len t i hc ht]
  exact nofun

/-- protection never turns a consistent annotation invalid, selected text or not -/
theorem protect_never_invalid (h : Text → H) (m : Mode) (len : Nat) (t : Text) (i : Info H)
    (hc : Consistent h i t) : validateOne h (protectOne h m len t i) t ≠ some false :=
  validateOne_protectWith_ne_false _ _ hc

theorem foldl_add_counts (h : Text → H) (texts : List Text) (anns : List (Ann H)) (r : Result) :
    (anns.foldl (fun r a => r.add (validateOne h a.info (a.text texts))) r) =
      ⟨r.valid + anns.countP (fun a => validateOne h a.info (a.text texts) = some true),
       r.invalid + anns.countP (fun a => validateOne h a.info (a.text texts) = some false),
       r.missing + anns.countP (fun a => validateOne h a.info (a.text texts) = none)⟩ := by
  induction anns generalizing r with
  | nil => rfl
  | cons a as ih =>
    rw [List.foldl_cons, ih, Result.add_eq, List.countP_cons, List.countP_cons, List.countP_cons]
    simp only [decide_eq_true_eq, Nat.add_assoc, Nat.add_comm (List.countP _ _)]

/-- `validate_text` counts each verdict -/
theorem validateAll_counts (h : Text → H) (texts : List Text) (anns : List (Ann H)) :
    validateAll h texts anns =
      ⟨anns.countP (fun a => validateOne h a.info (a.text texts) = some true),
       anns.countP (fun a => validateOne h a.info (a.text texts) = some false),
       anns.countP (fun a => validateOne h a.info (a.text texts) = none)⟩ := by
  unfold validateAll
  rw [foldl_add_counts]
  simp only [Nat.zero_add]

theorem protect_text_eq (h : Text → H) (m : Mode) (texts : List Text) (a : Ann H) :
    Ann.text texts { a with info := protectOne h m (annLen a.sels) (a.text texts) a.info } = a.text texts := rfl

/-- **C18a (store).** After `protect_text` in any mode, on a store whose annotations carry no contradicting
information, `validate_text` reports no invalid annotation, and reports as valid every annotation that
selects text. -/
theorem protect_then_validate (h : Text → H) (m : Mode) (texts : List Text) (anns : List (Ann H))
    (hc : ∀ a ∈ anns, Consistent h a.info (a.text texts)) :
    (validateAll h texts (protect h m texts anns)).invalid = 0 ∧
    (validateAll h texts (protect h m texts anns)).valid ≥ anns.countP (fun a => a.text texts ≠ []) := by
  rw [validateAll_counts]
  simp only [protect, List.countP_map]
  constructor
  · rw [List.countP_eq_zero]
    intro a ha
    have := protect_never_invalid h m (annLen a.sels) _ _ (hc a ha)
    simp only [Function.comp, protect_text_eq]
    intro hd
    exact this (of_decide_eq_true hd)
  · apply List.countP_mono_left
    intro a ha hne
    have hne' : a.text texts ≠ [] := by simpa using hne
    have := protect_valid h m (annLen a.sels) _ _ (hc a ha) hne'
    simp only [Function.comp, protect_text_eq]
    exact decide_eq_true this

/-- **C18b (store).** Protect a store (no prior information), then look at it against other texts and
re-resolved selections `anns'` (same annotations, same stored information, position by position).
The invalid annotations are exactly those that selected text and whose selected characters now differ. -/
theorem validate_after_edit (h : Text → H) (m : Mode) (texts texts' : List Text) (a a' : Ann H)
    (hinfo : a.info = Info.none)
    (hsame : a'.info = protectOne h m (annLen a.sels) (a.text texts) a.info)
    (ht : a.text texts ≠ [])
    (hcol : NoCollision h (a.text texts) (a'.text texts')) :
    (validateOne h a'.info (a'.text texts') = some false ↔ a'.text texts' ≠ a.text texts) ∧
    (validateOne h a'.info (a'.text texts') = some true ↔ a'.text texts' = a.text texts) := by
  rw [hsame, hinfo]
  exact flag_iff h m _ _ _ ht hcol

/-! ## edits away from a selection do not change its characters -/

theorem piece_other_resource (texts : List Text) (r : Nat) (t' : Text) (s : Sel) (hr : s.res ≠ r) :
    piece (texts.set r t') s = piece texts s :=
  piece_set_ne texts r t' s hr

theorem piece_substitute_outside (texts : List Text) (r p : Nat) (c : Char) (t : Text) (s : Sel)
    (hr : texts[r]? = some t) (hout : s.res ≠ r ∨ p < s.b ∨ s.e ≤ p) :
    piece (texts.set r (substitute t p c)) s = piece texts s := by
  refine piece_set_of_agree texts r t _ s hr fun e k hb he => List.getElem?_set_ne ?_
  rcases hout with h | h | h <;> omega

theorem piece_insert_after (texts : List Text) (r p : Nat) (c : Char) (t : Text) (s : Sel)
    (hr : texts[r]? = some t) (hout : s.res ≠ r ∨ s.e ≤ p) (hwf : s.b ≤ s.e) (hin : s.e ≤ t.length) :
    piece (texts.set r (insertAt t p c)) s = piece texts s := by
  refine piece_set_of_agree texts r t _ s hr fun e k _ he => ?_
  have hp : s.e ≤ p := hout.resolve_left (not_not_intro e)
  -- `hin`: `t.take p` is long enough to hold position `k`
  rw [insertAt, List.getElem?_append_left (by rw [List.length_take]; omega), List.getElem?_take_of_lt (by omega)]

/-- deleting a character at or after the end of a selection leaves its characters alone -/
theorem piece_delete_after (texts : List Text) (r p : Nat) (t : Text) (s : Sel)
    (hr : texts[r]? = some t) (hout : s.res ≠ r ∨ s.e ≤ p) (hwf : s.b ≤ s.e) :
    piece (texts.set r (deleteAt t p)) s = piece texts s :=
  piece_set_of_agree texts r t _ s hr fun e _ _ he =>
    List.getElem?_eraseIdx_of_lt (Nat.lt_of_lt_of_le he (hout.resolve_left (not_not_intro e)))

/-- an annotation none of whose selections is touched keeps its text -/
theorem annText_congr (texts texts' : List Text) (d : Text) (sels : List Sel)
    (hs : ∀ s ∈ sels, piece texts' s = piece texts s) : annText texts' d sels = annText texts d sels := by
  unfold annText
  congr 1
  exact List.map_congr_left hs

/-- a store with two annotations, protected in every mode with the identity "checksum", validates; after
substituting one character the annotation over it is the only invalid one -/
example :
    let texts : List Text := ["hello world".toList]
    let anns : List (Ann Text) := [⟨[⟨0, 0, 5⟩], none, Info.none⟩, ⟨[⟨0, 6, 11⟩], none, Info.none⟩]
    let texts' : List Text := [substitute "hello world".toList 1 'a']
    (∀ m ∈ [Mode.checksum, .text, .both, .auto],
      validateAll id texts (protect id m texts anns) = ⟨2, 0, 0⟩ ∧
      validateAll id texts' (protect id m texts anns) = ⟨1, 1, 0⟩) := by decide

example : NoCollision (H := Text) id "ab".toList "ac".toList := by intro h; exact h

/-! ### tie to the source: `Stam.Gen.modePlan` is regenerated from `protect_text` (src/textvalidation.rs) on every run -/

/-- the decision the source takes (which of checksum and text to record, per mode and selected length, incl. the Auto
threshold) is the model's `Mode.plan`; an equivalent rewrite of the comparison still checks -/
theorem source_mode_plan_is_the_model (m : Stam.TV.Mode) (len : Nat) : Stam.Gen.modePlan m len = m.plan len := by
  cases m with
  | checksum => rfl
  | text => rfl
  | both => rfl
  | auto =>
    simp only [Stam.Gen.modePlan, Stam.TV.Mode.plan]
    -- left: the same pair on both sides, or two comparisons that contradict each other
    repeat' split
    all_goals first | rfl | omega

end Stam.TV.C18
