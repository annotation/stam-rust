import StamModel.Lemmas.Untrusted
/-
  C19 — temporary identifiers in a document that is merged into a store which holds annotations already
  (`with_file`, `merge_json_str`, an `@include`d sub-store): what is there is never overwritten or cut off, whatever
  numbers the document carries.
-/
namespace Stam.C19
open Stam Stam.UT

/-- merged into an empty store, the loop is the loop on a fresh store -/
theorem loadInto_zero (canAlloc : Nat → Bool) : ∀ (items : List (Option Nat)) (slots : Nat),
    loadInto canAlloc 0 slots items = load canAlloc slots items := by
  intro items
  induction items with
  | nil => intro slots; rfl
  | cons it rest ih =>
    intro slots
    cases it with
    | none => simp only [loadInto, load, ih]
    | some h =>
      simp only [loadInto, load, Nat.add_zero]
      by_cases c1 : slots > h
      · simp [c1]
      · simp only [c1, if_false]
        rw [Nat.max_eq_left (Nat.le_of_not_lt c1), ih]

/-- **what is there stays**: every item of the merged document lands at or beyond the slots in use when the merge began
(and each beyond the one before it), so no annotation that was there is overwritten and the vector is never cut
back — whatever temporary identifiers the document carries -/
theorem loadInto_above (canAlloc : Nat → Bool) (pre : Nat) : ∀ (items : List (Option Nat)) (slots : Nat) (land : List Nat),
    loadInto canAlloc pre slots items = some land → (∀ x ∈ land, slots ≤ x) ∧ land.Pairwise (· < ·) ∧ land.length = items.length := by
  intro items
  induction items with
  | nil =>
    intro slots land h
    cases h
    simp
  | cons it rest ih =>
    intro slots land h
    obtain ⟨-, l, hl, rfl⟩ := loadInto_cons.1 h
    obtain ⟨a, b, c⟩ := ih _ _ hl
    refine ⟨?_, List.pairwise_cons.2 ⟨fun x hx => a x hx, b⟩, by simp [c]⟩
    intro x hx
    rcases List.mem_cons.mp hx with rfl | hx'
    · exact Nat.le_max_right ..
    · have := a x hx'
      omega

/-- an item with a temporary identifier beyond the slots in use lands exactly there -/
theorem loadInto_lands (canAlloc : Nat → Bool) (pre slots h : Nat) (rest : List (Option Nat)) (land : List Nat)
    (hh : slots ≤ h) (hl : loadInto canAlloc pre slots (some h :: rest) = some land) : land.head? = some h := by
  obtain ⟨-, l, -, rfl⟩ := loadInto_cons.1 hl
  simp [Nat.max_eq_left hh]

/-- **every document a store writes loads back handle for handle**: a store lists its items in handle order, so the
temporary identifiers are strictly increasing (with gaps where items were removed); such a document is *accepted*
(the other theorems only speak about accepted documents) as long as the allocator grants the gaps, and every item
lands at exactly the handle it names -/
theorem load_accepts_increasing : ∀ (hs : List Nat) (slots : Nat),
    (∀ x ∈ hs, slots ≤ x) → hs.Pairwise (· < ·) → load (fun _ => true) slots (hs.map some) = some hs := by
  intro hs
  induction hs with
  | nil =>
    intro slots _ _
    rfl
  | cons h rest ih =>
    intro slots hge hp
    rw [List.pairwise_cons] at hp
    rw [List.map_cons, load_cons]
    refine ⟨fun _ e => ?_, rest, ih (h + 1) (fun x hx => hp.1 x hx) hp.2, rfl⟩
    cases e
    exact ⟨hge h List.mem_cons_self, fun _ => rfl⟩

/-- the same for a document without any temporary identifier (every item has a public one, or the writer left them
out): the items land densely, one after the other, from the first free slot — and nothing is ever refused -/
theorem loadInto_dense (canAlloc : Nat → Bool) (pre : Nat) : ∀ (n slots : Nat),
    loadInto canAlloc pre slots (List.replicate n none) = some (List.range' slots n) := by
  intro n
  induction n with
  | zero => intro slots; rfl
  | succ n ih => intro slots; simp only [List.replicate_succ, loadInto, ih, List.range'_succ, Option.map_some]

/-- **more there already never makes a merge fail**: a document accepted by a store that held `pre` annotations when
the merge began is accepted, with the same landing, when it held more (the bound on a temporary identifier only
loosens) — so the refusal `slots > h + pre` is the only place `pre` matters -/
theorem loadInto_mono_pre (canAlloc : Nat → Bool) (pre pre' : Nat) (hpre : pre ≤ pre') :
    ∀ (items : List (Option Nat)) (slots : Nat) (land : List Nat),
    loadInto canAlloc pre slots items = some land → loadInto canAlloc pre' slots items = some land := by
  intro items
  induction items with
  | nil =>
    intro slots land h
    exact h
  | cons it rest ih =>
    intro slots land h
    rw [loadInto_cons] at h ⊢
    obtain ⟨hit, l, hl, rfl⟩ := h
    exact ⟨fun h e => ⟨Nat.le_trans (hit h e).1 (Nat.add_le_add_left hpre h), (hit h e).2⟩, l, ih _ _ hl, rfl⟩

example : load (fun _ => true) 0 ([0, 2, 3, 7].map some) = some [0, 2, 3, 7] := by decide
example : loadInto (fun _ => false) 2 2 (List.replicate 3 none) = some [2, 3, 4] := by decide

/-! ### non-vacuity: a document written by a store with three annotations (`!A0`, `!A2` after a removal), merged into a
store that holds two -/
example : loadInto (fun _ => true) 2 2 [some 0, some 2, none] = some [2, 3, 4] := by decide
example : loadInto (fun _ => true) 2 2 [some 5, some 1] = none := by decide

end Stam.C19
