import StamModel.Lemmas.Vocab
/-
  C10 — "within a dataset each key exists once … asking a key for its data returns exactly the items carrying that
  key, at all times", for the dataset model of Vocab.lean: the index the code keeps (`key_data_map`) is exact after
  every insertion, removal, key removal and merge, from the empty dataset on; and data without identifier stays
  unique per (key, value) (`reachable_shared`).
-/
namespace Stam.Vocab
open Stam

theorem inv_empty : Inv {} := by
  refine ⟨?_, ?_, ?_, ?_, ?_⟩
  · intro k1 k2 n h; simp [getLive] at h
  · intro d1 d2 x1 x2 i h; simp [getLive] at h
  · intro k d; simp [idxGet, getLive]
  · intro k; simp [idxGet, Sorted]
  · intro d x h; simp [getLive] at h

theorem dataById_none (s : DSet) (i : String) (h : s.dataById i = none) :
    ∀ d x, getLive s.data d = some x → x.id ≠ some i :=
  findIdx_key_none Datum.id h

theorem dataById_some (s : DSet) (i : String) (d : Nat) (h : s.dataById i = some d) :
    ∃ x, getLive s.data d = some x ∧ x.id = some i :=
  findIdx_key_some Datum.id h

theorem push_inv (s : DSet) (x : Datum) (hi : Inv s) (hk : (getLive s.keys x.key).isSome)
    (hid : ∀ i, x.id = some i → s.dataById i = none) : Inv (s.push x).2 :=
  hi.insertDatum rfl (getLive_append_eq s.data (some x))
    (mem_idxGet_idxInsert (hi.idxSorted _) _) (sorted_idxGet_idxInsert hi.idxSorted _ _)
    (getLive_ge _ _ (Nat.le_refl _)) hk (fun i e => dataById_none s i (hid i e))

theorem keyByName_none (s : DSet) (n : String) (h : s.keyByName n = none) : ∀ k, getLive s.keys k ≠ some n :=
  findIdx_beq_none h

theorem keyByName_some (s : DSet) (n : String) (k : Nat) (h : s.keyByName n = some k) : getLive s.keys k = some n :=
  findIdx_beq_some h

theorem addKey_inv (s : DSet) (n : String) (hi : Inv s) (hn : s.keyByName n = none) :
    Inv { s with keys := s.keys ++ [some n] } :=
  ⟨unique_append hi.keysUnique (keyByName_none s n hn), hi.idsUnique, hi.idxExact, hi.idxSorted,
    fun d x hx => getLive_append_of_isSome (hi.keysLive d x hx) ▸ hi.keysLive d x hx⟩

/-- **`insert_data` keeps the invariant**, whatever its arguments -/
theorem insertData_inv (s : DSet) (id : Option String) (key v : String) (sf : Bool) (hi : Inv s) :
    Inv (s.insertData id key v sf).2 := by
  rcases insertData_cases s id key v sf with h | ⟨hid, ⟨k, hk, h, _⟩ | ⟨hk, h⟩⟩
  · rw [h]
    exact hi
  · rw [h]
    exact push_inv s ⟨id, k, v⟩ hi (Option.isSome_iff_exists.mpr ⟨_, keyByName_some s key k hk⟩) hid
  · rw [h]
    exact push_inv _ ⟨id, s.keys.length, v⟩ (addKey_inv s key hi hk) (Option.isSome_iff_exists.mpr ⟨_, getLive_append_last _ _⟩) hid

theorem removeData_data (s s' : DSet) (d : Nat) (h : s.removeData d = some s') :
    (∀ d', getLive s'.data d' = if d' = d then none else getLive s.data d') ∧ s'.keys = s.keys := by
  obtain ⟨x, hx, rfl⟩ := removeData_eq_some h
  exact ⟨getLive_setAt_of_lt (getLive_lt _ _ _ hx) none, rfl⟩

theorem removeData_inv (s s' : DSet) (d : Nat) (hi : Inv s) (h : s.removeData d = some s') : Inv s' := by
  have hdata := (removeData_data s s' d h).1
  obtain ⟨x, hx, rfl⟩ := removeData_eq_some h
  -- a tombstone only takes away: uniqueness and the keys' liveness carry over
  refine ⟨hi.keysUnique, fun d1 d2 x1 x2 i h1 h2 => hi.idsUnique d1 d2 x1 x2 i (getLive_of_setAt_none h1) (getLive_of_setAt_none h2),
    ?_, sorted_idxGet_idxRemove hi.idxSorted _ _, fun d' y hy => hi.keysLive d' y (getLive_of_setAt_none hy)⟩
  intro k d'
  rw [mem_idxGet_idxRemove (hi.idxSorted _), hi.idxExact, hdata]
  by_cases e : d' = d
  · subst e
    simp [hx, eq_comm]
  · simp [e]

theorem removeAll_inv : ∀ (l : List Nat) (s : DSet), Inv s → Inv (s.removeAll l) :=
  removeAll_preserves removeData_inv

theorem removeAll_data : ∀ (l : List Nat) (s : DSet),
    (∀ d', getLive (s.removeAll l).data d' = if d' ∈ l then none else getLive s.data d') ∧ (s.removeAll l).keys = s.keys := by
  intro l
  induction l with
  | nil => intro s; simp [DSet.removeAll]
  | cons d r ih =>
    intro s
    have hstep : (∀ d', getLive ((s.removeData d).getD s).data d' = if d' = d then none else getLive s.data d') ∧
        ((s.removeData d).getD s).keys = s.keys := by
      cases h : s.removeData d with
      | some s' => exact removeData_data s s' d h
      | none =>
        refine ⟨fun d' => ?_, rfl⟩
        split
        · subst d'
          exact removeData_eq_none h
        · rfl
    obtain ⟨h1, h2⟩ := ih ((s.removeData d).getD s)
    refine ⟨fun d' => ?_, h2.trans hstep.2⟩
    show getLive (((s.removeData d).getD s).removeAll r).data d' = _
    rw [h1, hstep.1]
    by_cases e : d' = d <;> simp [e]

theorem removeKey_inv (s s' : DSet) (k : Nat) (hi : Inv s) (h : s.removeKey k = some s') : Inv s' := by
  obtain ⟨hk, rfl⟩ := removeKey_eq_some h
  have h1 := removeAll_inv (s.dataByKey k) s hi
  obtain ⟨hd, hkeys⟩ := removeAll_data (s.dataByKey k) s
  -- no live item carries the key any more
  have hgone : ∀ d x, getLive (s.removeAll (s.dataByKey k)).data d = some x → x.key ≠ k := by
    intro d x hx hxk
    rw [hd] at hx
    split at hx
    · cases hx
    · rename_i hnot
      exact hnot ((hi.idxExact k d).mpr ⟨x, hx, hxk⟩)
  have hkeys' := getLive_setAt_of_lt (hkeys ▸ lt_of_getLive_isSome hk) none
  refine ⟨fun k1 k2 n l1 l2 => h1.keysUnique k1 k2 n (getLive_of_setAt_none l1) (getLive_of_setAt_none l2),
    h1.idsUnique, ?_, sorted_idxGet_idxClear h1.idxSorted _, ?_⟩
  · intro k' d
    rw [mem_idxGet_idxClear, h1.idxExact]
    constructor
    · exact fun h => h.1
    · rintro ⟨x, hx, hxk⟩
      exact ⟨⟨x, hx, hxk⟩, hxk ▸ hgone d x hx⟩
  · intro d x hx
    rw [hkeys', if_neg (hgone d x hx)]
    exact h1.keysLive d x hx

def KeyLive (s : DSet) (k : Nat) : Prop := (getLive s.keys k).isSome

theorem mergeKey_spec (s : DSet) (n : String) (hi : Inv s) :
    Inv (s.mergeKey n).2 ∧ KeyLive (s.mergeKey n).2 (s.mergeKey n).1 ∧ (∀ k, KeyLive s k → KeyLive (s.mergeKey n).2 k) ∧
    (s.mergeKey n).2.data = s.data := by
  unfold DSet.mergeKey
  cases hk : s.keyByName n with
  | some k => exact ⟨hi, by simp [KeyLive, keyByName_some s n k hk], fun _ h => h, rfl⟩
  | none =>
    exact ⟨addKey_inv s n hi hk, by simp [KeyLive, getLive_append_last],
      fun k h => (getLive_append_of_isSome h ▸ h : (getLive (s.keys ++ [some n]) k).isSome), rfl⟩

theorem mergeKeys_spec : ∀ (l : List (Option String)) (s : DSet), Inv s →
    Inv (s.mergeKeys l).2 ∧ (∀ (j k : Nat), ((s.mergeKeys l).1[j]?).join = some k → KeyLive (s.mergeKeys l).2 k) ∧
    (∀ k, KeyLive s k → KeyLive (s.mergeKeys l).2 k) ∧ (s.mergeKeys l).2.data = s.data := by
  intro l
  induction l with
  | nil => intro s hi; exact ⟨hi, by simp [DSet.mergeKeys], fun _ h => h, rfl⟩
  | cons a r ih =>
    intro s hi
    cases a with
    | none =>
      obtain ⟨h1, h2, h3, h4⟩ := ih s hi
      refine ⟨h1, ?_, h3, h4⟩
      intro j k hj
      cases j with
      | zero => simp [DSet.mergeKeys] at hj
      | succ j => exact h2 j k (by simpa [DSet.mergeKeys] using hj)
    | some n =>
      obtain ⟨q1, q2, q3, q4⟩ := mergeKey_spec s n hi
      obtain ⟨h1, h2, h3, h4⟩ := ih (s.mergeKey n).2 q1
      refine ⟨h1, ?_, fun k h => h3 k (q3 k h), by simp only [DSet.mergeKeys]; rw [h4, q4]⟩
      intro j k hj
      cases j with
      | zero =>
        simp only [DSet.mergeKeys, List.getElem?_cons_zero, Option.join_some, Option.some.injEq] at hj
        subst hj
        exact h3 _ q2
      | succ j => exact h2 j k (by simpa [DSet.mergeKeys] using hj)

theorem mergeDatum_keys (s : DSet) (x : Datum) : (s.mergeDatum x).keys = s.keys := by
  rcases mergeDatum_cases s x with h | ⟨h, _⟩ | ⟨_, _, _, _, _, _, h⟩
  · rw [h]
  · rw [h]
    rfl
  · rw [h]

/-- one item of the other set keeps the invariant: also when it overwrites an item that is here under the same
identifier with another key (the index follows) -/
theorem mergeDatum_inv (s : DSet) (x : Datum) (hi : Inv s) (hk : KeyLive s x.key) : Inv (s.mergeDatum x) := by
  rcases mergeDatum_cases s x with h | ⟨h, hid, _⟩ | ⟨id, d, old, hid, hd, hold, h⟩
  · rw [h]
    exact hi
  · rw [h]
    exact push_inv s x hi hk hid
  · -- an overwrite in place: `old` is taken out and `x` put into the slot it leaves
    rw [h]
    obtain ⟨old', ho', hoid⟩ := dataById_some s id d hd
    rw [hold] at ho'
    cases ho'
    have hlt := getLive_lt _ _ _ hold
    have h1 : Inv ⟨s.keys, setAt s.data d none, idxRemove s.idx old.key d⟩ :=
      removeData_inv s _ d hi (by simp [DSet.removeData, hold])
    refine h1.insertDatum (d := d) (x := x) rfl ?_ ?_ ?_ ?_ hk ?_
    · intro d'
      simp only [getLive_setAt_of_lt hlt]
      split <;> rfl
    · intro k d'
      by_cases hsame : old.key = x.key
      · -- the key stays and so does the entry, which lists `d` already
        have hmem : d ∈ idxGet s.idx x.key := (hi.idxExact _ _).mpr ⟨old, hold, hsame⟩
        simp only [hsame, if_true, mem_idxGet_idxRemove (hi.idxSorted _)]
        by_cases c : k = x.key ∧ d' = d
        · obtain ⟨rfl, rfl⟩ := c
          simp [hmem]
        · simp [c]
      · simp only [hsame, if_false]
        exact mem_idxGet_idxInsert (h1.idxSorted _) _ _ _
    · intro k
      split
      · exact hi.idxSorted k
      · exact sorted_idxGet_idxInsert h1.idxSorted _ _ _
    · simp [getLive_setAt_of_lt hlt]
    · intro i e d' y hy hyi
      rw [hid] at e
      cases e
      rw [getLive_setAt_of_lt hlt] at hy
      split at hy
      · cases hy
      · rename_i hne
        exact hne (hi.idsUnique _ _ _ _ _ hy hold hyi hoid)

/-- `mergeData` keeps the invariant, and whatever `mergeDatum` keeps where the invariant holds -/
theorem mergeData_preserves (kmap : List (Option Nat)) {P : DSet → Prop}
    (hP : ∀ s x, Inv s → P s → P (s.mergeDatum x)) : ∀ (l : List (Option Datum)) (s : DSet), Inv s → P s →
    (∀ (j k : Nat), (kmap[j]?).join = some k → KeyLive s k) → Inv (s.mergeData kmap l).2 ∧ P (s.mergeData kmap l).2
  | [], _, hi, hp, _ => ⟨hi, hp⟩
  | none :: r, s, hi, hp, hm => mergeData_preserves kmap hP r s hi hp hm
  | some x :: r, s, hi, hp, hm => by
    rw [DSet.mergeData]
    cases hk : (kmap[x.key]?).join with
    | none => exact ⟨hi, hp⟩
    | some k =>
      exact mergeData_preserves kmap hP r _ (mergeDatum_inv s { x with key := k } hi (hm x.key k hk)) (hP s _ hi hp)
        (fun j k' hj => by simpa only [KeyLive, mergeDatum_keys] using hm j k' hj)

theorem mergeData_inv (kmap : List (Option Nat)) : ∀ (l : List (Option Datum)) (s : DSet), Inv s →
    (∀ (j k : Nat), (kmap[j]?).join = some k → KeyLive s k) → Inv (s.mergeData kmap l).2 :=
  fun l s hi hm => (mergeData_preserves kmap (P := fun _ => True) (fun _ _ _ _ => trivial) l s hi trivial hm).1

/-- **merging another dataset keeps the invariant**, whatever the other dataset holds (no assumption on it) -/
theorem merge_inv (s other : DSet) (hi : Inv s) : Inv (s.merge other).2 := by
  unfold DSet.merge
  obtain ⟨h1, h2, _, _⟩ := mergeKeys_spec other.keys s hi
  exact mergeData_inv _ other.data _ h1 h2

theorem step_inv (p : DSet × DSet) (op : Op) (h1 : Inv p.1) (h2 : Inv p.2) : Inv (step p op).1 ∧ Inv (step p op).2 := by
  cases op with
  | ins reg id k v sf =>
    cases reg
    · exact ⟨insertData_inv _ _ _ _ _ h1, h2⟩
    · exact ⟨h1, insertData_inv _ _ _ _ _ h2⟩
  | rmData reg d =>
    cases reg
    · exact ⟨getD_preserves h1 fun _ => removeData_inv _ _ _ h1, h2⟩
    · exact ⟨h1, getD_preserves h2 fun _ => removeData_inv _ _ _ h2⟩
  | rmKey reg k =>
    cases reg
    · exact ⟨getD_preserves h1 fun _ => removeKey_inv _ _ _ h1, h2⟩
    · exact ⟨h1, getD_preserves h2 fun _ => removeKey_inv _ _ _ h2⟩
  | merge => exact ⟨merge_inv _ _ h1, inv_empty⟩

theorem foldl_inv : ∀ (ops : List Op) (p : DSet × DSet), Inv p.1 → Inv p.2 →
    Inv (ops.foldl step p).1 ∧ Inv (ops.foldl step p).2 :=
  fun ops _ h1 h2 => List.foldlRecOn (motive := fun p => Inv p.1 ∧ Inv p.2) ops _ ⟨h1, h2⟩
    fun p hp op _ => step_inv p op hp.1 hp.2

/-- **at all times**: after any sequence of insertions (safe or not), removals, key removals and merges, each key name
exists once, each identifier once, and every key lists exactly the live items that carry it, each once -/
theorem reachable_inv (ops : List Op) : Inv (run ops).1 ∧ Inv (run ops).2 :=
  foldl_inv ops _ inv_empty inv_empty

theorem dataByValue_none (s : DSet) (hi : Inv s) (k : Nat) (v : String) (h : s.dataByValue k v = none) :
    ∀ d x, getLive s.data d = some x → x.key = k → x.val ≠ v := by
  intro d x hx hk hv
  unfold DSet.dataByValue at h
  rw [List.find?_eq_none] at h
  have hm : d ∈ idxGet s.idx k := (hi.idxExact k d).mpr ⟨x, hx, hk⟩
  have := h d hm
  simp [hx, hv] at this

theorem dataByValue_some (s : DSet) (hi : Inv s) (k : Nat) (v : String) (d : Nat) (h : s.dataByValue k v = some d) :
    ∃ x, getLive s.data d = some x ∧ x.key = k ∧ x.val = v := by
  unfold DSet.dataByValue at h
  have hp := List.find?_some h
  have hm := List.mem_of_find?_eq_some h
  obtain ⟨x, hx, hk⟩ := (hi.idxExact k d).mp hm
  refine ⟨x, hx, hk, ?_⟩
  simpa [hx] using hp

/-- the `expect("getting item")` of `data_by_value` cannot fire: whatever the index lists is live -/
theorem listed_is_live (s : DSet) (hi : Inv s) (k d : Nat) (h : d ∈ s.dataByKey k) : (getLive s.data d).isSome := by
  obtain ⟨x, hx, _⟩ := (hi.idxExact k d).mp h
  simp [hx]

theorem push_shared (s : DSet) (x : Datum) (hs : Shared s)
    (hnew : x.id = none → ∀ d y, getLive s.data d = some y → y.key = x.key → y.val ≠ x.val) : Shared (s.push x).2 :=
  hs.insertDatum (getLive_append_eq s.data (some x)) hnew

theorem shared_of_sub (s s' : DSet) (hs : Shared s)
    (hsub : ∀ d x, getLive s'.data d = some x → getLive s.data d = some x) : Shared s' := by
  intro d1 d2 x1 x2 h1 h2
  exact hs d1 d2 x1 x2 (hsub _ _ h1) (hsub _ _ h2)

/-- an insertion that names an identifier, or asks for the look-up (`safety`), keeps the vocabulary shared -/
theorem insertData_shared (s : DSet) (id : Option String) (key v : String) (sf : Bool) (hi : Inv s) (hs : Shared s)
    (hsafe : id.isSome ∨ sf = true) : Shared (s.insertData id key v sf).2 := by
  rcases insertData_cases s id key v sf with h | ⟨_, ⟨k, _, h, hv⟩ | ⟨_, h⟩⟩
  · rw [h]
    exact hs
  · rw [h]
    refine push_shared s _ hs fun (e : id = none) => dataByValue_none s hi k v (hv e ?_)
    exact hsafe.resolve_left (by simp [e])
  · -- a key that is new has no data yet
    rw [h]
    refine push_shared _ _ hs fun _ d y hy hyk => ?_
    have := lt_of_getLive_isSome (hi.keysLive d y hy)
    simp only at hyk
    omega

theorem removeData_shared (s s' : DSet) (d : Nat) (hs : Shared s) (h : s.removeData d = some s') : Shared s' := by
  obtain ⟨_, _, rfl⟩ := removeData_eq_some h
  exact shared_of_sub s _ hs fun _ _ => getLive_of_setAt_none

theorem removeAll_shared (s : DSet) (l : List Nat) (hs : Shared s) : Shared (s.removeAll l) :=
  removeAll_preserves removeData_shared l s hs

theorem removeKey_shared (s s' : DSet) (k : Nat) (hs : Shared s) (h : s.removeKey k = some s') : Shared s' := by
  obtain ⟨_, rfl⟩ := removeKey_eq_some h
  exact removeAll_shared s _ hs

/-- one item of the other set keeps the vocabulary shared: data without identifier that is here already is not added
again, so a dataset merged in twice does not double (3c082a3) -/
theorem mergeDatum_shared (s : DSet) (x : Datum) (hi : Inv s) (hs : Shared s) : Shared (s.mergeDatum x) := by
  rcases mergeDatum_cases s x with h | ⟨h, _, hv⟩ | ⟨id, d, old, hid, _, hold, h⟩
  · rw [h]
    exact hs
  · rw [h]
    exact push_shared s x hs fun e => dataByValue_none s hi x.key x.val (hv e)
  · rw [h]
    exact hs.insertDatum (getLive_setAt_of_lt (getLive_lt _ _ _ hold) (some x)) fun e => nomatch hid.symm.trans e

theorem mergeData_shared (kmap : List (Option Nat)) : ∀ (l : List (Option Datum)) (s : DSet), Inv s → Shared s →
    (∀ (j k : Nat), (kmap[j]?).join = some k → KeyLive s k) → Shared (s.mergeData kmap l).2 :=
  fun l s hi hs hm => (mergeData_preserves kmap (fun s x hi hs => mergeDatum_shared s x hi hs) l s hi hs hm).2

/-- **merging keeps the vocabulary shared**, whatever the other dataset holds — also the same dataset a second time -/
theorem merge_shared (s other : DSet) (hi : Inv s) (hs : Shared s) : Shared (s.merge other).2 := by
  unfold DSet.merge
  obtain ⟨h1, h2, _, h4⟩ := mergeKeys_spec other.keys s hi
  exact mergeData_shared _ other.data _ h1 (shared_of_sub s _ hs (by intro d x h; rw [h4] at h; exact h)) h2

/-- insertions into the first dataset that name an identifier or ask for the look-up; anything goes for the second -/
def Op.safe : Op → Prop
  | .ins false id _ _ sf => id.isSome ∨ sf = true
  | _ => True

/-- one operation keeps the vocabulary of the first dataset shared, if it is `safe` -/
theorem step_shared (p : DSet × DSet) (op : Op) (hop : op.safe) (h1 : Inv p.1) (hs : Shared p.1) :
    Shared (step p op).1 := by
  cases op with
  | ins reg id k v sf =>
    cases reg
    · exact insertData_shared _ _ _ _ _ h1 hs hop
    · exact hs
  | rmData reg d =>
    cases reg
    · exact getD_preserves hs fun _ => removeData_shared _ _ _ hs
    · exact hs
  | rmKey reg k =>
    cases reg
    · exact getD_preserves hs fun _ => removeKey_shared _ _ _ hs
    · exact hs
  | merge => exact merge_shared _ _ h1 hs

theorem foldl_shared : ∀ (ops : List Op) (p : DSet × DSet), (∀ op ∈ ops, op.safe) → Inv p.1 → Inv p.2 → Shared p.1 →
    Shared (ops.foldl step p).1 :=
  fun ops _ hsafe h1 h2 hs =>
    (List.foldlRecOn (motive := fun p => (Inv p.1 ∧ Inv p.2) ∧ Shared p.1) ops _ ⟨⟨h1, h2⟩, hs⟩
      fun p hp op ho => ⟨step_inv p op hp.1.1 hp.1.2, step_shared p op (hsafe op ho) hp.1.1 hp.2⟩).2

/-- **the same (key, value) never yields a second data item**: after any sequence of operations whose insertions into
the dataset name an identifier or ask for the look-up — merges of arbitrary other datasets included — data without
identifier exists once per (key, value) -/
theorem reachable_shared (ops : List Op) (h : ∀ op ∈ ops, op.safe) : Shared (run ops).1 :=
  foldl_shared ops _ h inv_empty inv_empty (by intro d1 d2 x1 x2 h1; simp [getLive] at h1)

/-- **asking a key for its data returns exactly the items carrying that key, at all times**, each once -/
theorem key_lists_exactly_its_items (ops : List Op) (k d : Nat) :
    (d ∈ (run ops).1.dataByKey k ↔ ∃ x, getLive (run ops).1.data d = some x ∧ x.key = k) ∧
    ((run ops).1.dataByKey k).Nodup :=
  ⟨(reachable_inv ops).1.idxExact k d, sorted_nodup ((reachable_inv ops).1.idxSorted k)⟩

/-- **annotation data added without an explicit identifier is shared**: inserting a (key, value) that is there returns
an item that carries it and leaves the dataset as it is -/
theorem insert_existing_is_shared (s : DSet) (hi : Inv s) (key v : String) (k d0 : Nat) (x0 : Datum)
    (hk : s.keyByName key = some k) (h0 : getLive s.data d0 = some x0) (hk0 : x0.key = k) (hv0 : x0.val = v) :
    ∃ d x, s.insertData none key v true = (d, s) ∧ getLive s.data d = some x ∧ x.key = k ∧ x.val = v := by
  unfold DSet.insertData
  simp only [Option.bind_none, hk, Option.isNone_none, Bool.and_self, if_true]
  cases hv : s.dataByValue k v with
  | none => exact absurd hv0 (dataByValue_none s hi k v hv d0 x0 h0 hk0)
  | some d =>
    obtain ⟨x, hx, hxk, hxv⟩ := dataByValue_some s hi k v d hv
    exact ⟨d, x, rfl, hx, hxk, hxv⟩

/-- … and when the vocabulary is shared and that item has no identifier, it is *the* item -/
theorem insert_existing_returns_the_item (s : DSet) (hi : Inv s) (hs : Shared s) (key v : String) (k d0 : Nat) (x0 : Datum)
    (hk : s.keyByName key = some k) (h0 : getLive s.data d0 = some x0) (hk0 : x0.key = k) (hv0 : x0.val = v)
    (hid : x0.id = none) (hnoid : ∀ d x, getLive s.data d = some x → x.key = k → x.val = v → x.id = none) :
    s.insertData none key v true = (d0, s) := by
  obtain ⟨d, x, he, hx, hxk, hxv⟩ := insert_existing_is_shared s hi key v k d0 x0 hk h0 hk0 hv0
  have : d = d0 := hs d d0 x x0 hx h0 (hnoid d x hx hxk hxv) hid (by rw [hxk, hk0]) (by rw [hxv, hv0])
  rw [he, this]

/-! ### the premises are met; the two merges below are the cases of 3c082a3 and d4442d4 (DESIGN.md §9) -/

/-- a dataset with two keys and three items, one shared -/
def sample : DSet := (run [.ins false none "pos" "noun" true, .ins false (some "D1") "pos" "verb" true,
  .ins false none "lemma" "noun" true, .ins false none "pos" "noun" true]).1

example : sample = ⟨[some "pos", some "lemma"],
    [some ⟨none, 0, "noun"⟩, some ⟨some "D1", 0, "verb"⟩, some ⟨none, 1, "noun"⟩], [[0, 1], [2]]⟩ := rfl

/-- the same dataset merged in twice: nothing doubles -/
example : (sample.merge sample).2 = sample := rfl

/-- a second document carries D1 under another key: the item moves, and so does its index entry -/
example : (sample.merge ⟨[some "lemma"], [some ⟨some "D1", 0, "x"⟩], [[0]]⟩).2 =
    ⟨[some "pos", some "lemma"], [some ⟨none, 0, "noun"⟩, some ⟨some "D1", 1, "x"⟩, some ⟨none, 1, "noun"⟩],
      [[0], [1, 2]]⟩ := rfl

/-- an insertion without the look-up (`safety = false`, what the loaders do) is what `Op.safe` excludes: it does double -/
example : ¬ Shared (run [.ins false none "pos" "noun" true, .ins false none "pos" "noun" false]).1 := by
  intro h
  have := h 0 1 ⟨none, 0, "noun"⟩ ⟨none, 0, "noun"⟩ rfl rfl rfl rfl rfl rfl
  omega

end Stam.Vocab
