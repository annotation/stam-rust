import StamModel.Lemmas.Rel
import StamModel.Lemmas.RelGen
/-
  C13 — Text-selection relations have their documented algebraic meaning.
  All statements quantify over every `Nat` range, every resource and every operator/modifier combination; nothing is
  bounded. Also here, since property theorems are stated with them: `GapIsWhitespace` with `gapWs_iff`, and
  `rightmostScan_max`.
-/
namespace Stam.C13
open Stam

/-! ### Each relation coincides with its interval-arithmetic definition -/

theorem equals_def (al : Bool) (a c : TSel) (r : Res) :
    test (.equals al false) a c r = true ↔ (a.b = c.b ∧ a.e = c.e) := by
  cases a; cases c; simp [test, relPos, Op.neg]

theorem inset_def (al : Bool) (a c : TSel) (r : Res) :
    test (.inset al false) a c r = true ↔ (a.b = c.b ∧ a.e = c.e) := by
  cases a; cases c; simp [test, relPos, Op.neg]

/-- On non-empty ranges overlap is exactly "each begins before the other ends". -/
theorem overlaps_def (al : Bool) (a c : TSel) (r : Res) (ha : a.b < a.e) (hc : c.b < c.e) :
    test (.overlaps al false) a c r = true ↔ (a.b < c.e ∧ c.b < a.e) := by
  simp [test, relPos, Op.neg]; omega

/-- In general (zero-width ranges included) overlap is: proper overlap, or one embeds the other. -/
theorem overlaps_def_general (al : Bool) (a c : TSel) (r : Res) (ha : a.WF) (hc : c.WF) :
    test (.overlaps al false) a c r = true ↔
      ((a.b < c.e ∧ c.b < a.e ∧ a.b < a.e ∧ c.b < c.e) ∨ (a.b ≤ c.b ∧ c.e ≤ a.e) ∨ (c.b ≤ a.b ∧ a.e ≤ c.e)) := by
  unfold TSel.WF at *; simp [test, relPos, Op.neg]; omega

theorem embeds_def (al : Bool) (a c : TSel) (r : Res) :
    test (.embeds al false) a c r = true ↔ (a.b ≤ c.b ∧ c.e ≤ a.e) := by
  simp [test, relPos, Op.neg]

theorem embedded_def (al : Bool) (a c : TSel) (r : Res) :
    test (.embedded al false none) a c r = true ↔ (c.b ≤ a.b ∧ a.e ≤ c.e) :=
  embeds_def al c a r

theorem embedded_limit_def (al : Bool) (l : Nat) (a c : TSel) (r : Res) :
    test (.embedded al false (some l)) a c r = true ↔
      (c.b ≤ a.b ∧ a.e ≤ c.e ∧ a.b ≤ c.b + l ∧ c.e ≤ a.e + l) := by
  simp [test, relPos, Op.neg]; omega

theorem before_def (al : Bool) (a c : TSel) (r : Res) :
    test (.before al false none) a c r = true ↔ a.e ≤ c.b := by
  simp [test, relPos, Op.neg]

theorem before_limit_def (al : Bool) (l : Nat) (a c : TSel) (r : Res) :
    test (.before al false (some l)) a c r = true ↔ (a.e ≤ c.b ∧ c.b ≤ a.e + l) := by
  simp [test, relPos, Op.neg]; omega

theorem after_def (al : Bool) (a c : TSel) (r : Res) :
    test (.after al false none) a c r = true ↔ c.e ≤ a.b :=
  before_def al c a r

theorem after_limit_def (al : Bool) (l : Nat) (a c : TSel) (r : Res) :
    test (.after al false (some l)) a c r = true ↔ (c.e ≤ a.b ∧ a.b ≤ c.e + l) :=
  before_limit_def al l c a r

theorem precedes_exact_def (al : Bool) (a c : TSel) (r : Res) :
    test (.precedes al false false) a c r = true ↔ a.e = c.b := by
  simp [test, relPos, Op.neg]

theorem succeeds_exact_def (al : Bool) (a c : TSel) (r : Res) :
    test (.succeeds al false false) a c r = true ↔ c.e = a.b :=
  precedes_exact_def al c a r

/-- the text between `x` and `y` exists and consists of whitespace only -/
def GapIsWhitespace (r : Res) (x y : Nat) : Prop :=
  x ≤ y ∧ y ≤ r.len ∧ ∀ i, x ≤ i → i < y → r.ws[i]? = some true

theorem gapWs_iff (r : Res) (x y : Nat) : r.gapWs x y = true ↔ GapIsWhitespace r x y := by
  unfold Res.gapWs GapIsWhitespace Res.len
  simp only [Bool.and_eq_true, decide_eq_true_eq, List.all_eq_true, id, and_assoc]
  refine and_congr_right fun h1 => and_congr_right fun h2 => ?_
  -- the members of the gap are the `ws[x + j]` with `j < y - x`
  simp only [List.mem_iff_getElem?, List.getElem?_take, List.getElem?_drop]
  constructor
  · intro h i hi1 hi2
    have hlt : i < r.ws.length := by omega
    rw [List.getElem?_eq_getElem hlt,
      h r.ws[i] ⟨i - x, by simp [show i - x < y - x by omega, show x + (i - x) = i by omega]⟩]
  · rintro h b ⟨j, hj⟩
    split at hj
    · rw [h (x + j) (by omega) (by omega)] at hj
      exact (Option.some.inj hj).symm
    · cases hj

theorem precedes_ws_def (al : Bool) (a c : TSel) (r : Res) :
    test (.precedes al false true) a c r = true ↔ (a.e = c.b ∨ (a.e < c.b ∧ GapIsWhitespace r a.e c.b)) := by
  simp only [test, relPos, Op.neg]
  by_cases h : c.b ≥ a.e
  · by_cases h0 : c.b - a.e = 0
    · simp [h, h0]; omega
    · have : a.e < c.b := by omega
      simp [h, h0, gapWs_iff, this]; omega
  · simp [h]; omega

theorem succeeds_ws_def (al : Bool) (a c : TSel) (r : Res) :
    test (.succeeds al false true) a c r = true ↔ (c.e = a.b ∨ (c.e < a.b ∧ GapIsWhitespace r c.e a.b)) :=
  precedes_ws_def al c a r

theorem samebegin_def (al : Bool) (a c : TSel) (r : Res) :
    test (.samebegin al false) a c r = true ↔ a.b = c.b := by
  simp [test, relPos, Op.neg]

theorem sameend_def (al : Bool) (a c : TSel) (r : Res) :
    test (.sameend al false) a c r = true ↔ a.e = c.e := by
  simp [test, relPos, Op.neg]

theorem samerange_def (al : Bool) (a c : TSel) (r : Res) :
    test (.samerange al false) a c r = true ↔ (a.b = c.b ∧ a.e = c.e) := by
  simp [test, relPos, Op.neg]

/-! ### Converses and symmetry (any modifiers; the limit and whitespace flag are shared) -/

theorem embeds_conv_embedded (al al' ng : Bool) (a c : TSel) (r : Res) :
    test (.embeds al ng) a c r = test (.embedded al' ng none) c a r := by
  simp [test, relPos, Op.neg]

theorem before_conv_after (al al' ng : Bool) (l : Option Nat) (a c : TSel) (r : Res) :
    test (.before al ng l) a c r = test (.after al' ng l) c a r := by
  cases l <;> cases ng <;> simp [test, relPos, Op.neg]

theorem precedes_conv_succeeds (al al' ng w : Bool) (a c : TSel) (r : Res) :
    test (.precedes al ng w) a c r = test (.succeeds al' ng w) c a r := by
  cases w <;> cases ng <;> simp [test, relPos, Op.neg, eq_comm]

theorem equals_symm (al ng : Bool) (a c : TSel) (r : Res) :
    test (.equals al ng) a c r = test (.equals al ng) c a r := by
  cases ng <;> simp [test, relPos, Op.neg, eq_comm]

theorem overlaps_symm (al ng : Bool) (a c : TSel) (r : Res) :
    test (.overlaps al ng) a c r = test (.overlaps al ng) c a r := by
  have h : relPos (.overlaps al ng) a c r = relPos (.overlaps al ng) c a r := by
    simp only [relPos]
    rw [Bool.eq_iff_iff]
    simp only [Bool.or_eq_true, Bool.and_eq_true, decide_eq_true_eq]
    omega
  simp [test, h]

/-! ### Equality implies the weaker relations -/

theorem equals_imp (al : Bool) (a c : TSel) (r : Res)
    (h : test (.equals al false) a c r = true) :
    test (.embeds al false) a c r = true ∧ test (.embedded al false none) a c r = true ∧
    test (.samebegin al false) a c r = true ∧ test (.sameend al false) a c r = true ∧
    test (.samerange al false) a c r = true ∧ test (.inset al false) a c r = true ∧
    (a.WF → test (.overlaps al false) a c r = true) := by
  obtain ⟨h1, h2⟩ := (equals_def al a c r).1 h
  refine ⟨(embeds_def al a c r).2 ⟨by omega, by omega⟩, (embedded_def al a c r).2 ⟨by omega, by omega⟩,
    (samebegin_def al a c r).2 h1, (sameend_def al a c r).2 h2, (samerange_def al a c r).2 ⟨h1, h2⟩,
    (inset_def al a c r).2 ⟨h1, h2⟩, fun hw => ?_⟩
  have hc : c.WF := by
    unfold TSel.WF at *
    omega
  exact (overlaps_def_general al a c r hw hc).2 (.inr (.inl ⟨by omega, by omega⟩))

/-! ### A negated relation is the exact complement -/

theorem negate_compl (op : Op) (a c : TSel) (r : Res) :
    test op.toggleNeg a c r = !(test op a c r) := by
  simp only [test, Op.neg_toggleNeg, relPos_toggleNeg, ite_not_flag]

theorem negate_compl_testSet (op : Op) (a : TSel) (s : TSet) (r : Res) :
    testSet op.toggleNeg a s r = !(testSet op a s r) := by
  simp only [testSet, Op.neg_toggleNeg, relSetPos_toggleNeg, ite_not_flag]

theorem negate_compl_setTest (op : Op) (s : TSet) (c : TSel) (r : Res) (hne : s.items ≠ []) :
    setTest op.toggleNeg s c r = !(setTest op s c r) := by
  have : s.items.isEmpty = false := List.isEmpty_eq_false_iff.mpr hne
  simp only [setTest, this, Bool.false_eq_true, ↓reduceIte, Op.neg_toggleNeg, setRelPos_toggleNeg, ite_not_flag]

theorem negate_compl_setTestSet (op : Op) (s t : TSet) (r : Res) (hne : s.items ≠ []) :
    setTestSet op.toggleNeg s t r = !(setTestSet op s t r) := by
  have : s.items.isEmpty = false := List.isEmpty_eq_false_iff.mpr hne
  simp only [setTestSet, this, Bool.false_eq_true, ↓reduceIte, Op.neg_toggleNeg, setRelSetPos_toggleNeg, ite_not_flag]

/-! ### The modifier toggles -/

theorem toggleNeg_involutive (op : Op) : op.toggleNeg.toggleNeg = op := by
  cases op <;> simp [Op.toggleNeg]

theorem toggleAll_involutive (op : Op) : op.toggleAll.toggleAll = op := by
  cases op <;> simp [Op.toggleAll]

theorem toggleNeg_toggleAll_comm (op : Op) : op.toggleNeg.toggleAll = op.toggleAll.toggleNeg := by
  cases op <;> simp [Op.toggleNeg, Op.toggleAll]

/-- `toggle_all` and `with_limit` do not change a pairwise test's operands. -/
theorem toggleAll_pairwise (op : Op) (a c : TSel) (r : Res) :
    test op.toggleAll a c r = test op a c r := by
  simp only [test, Op.neg_toggleAll, relPos_toggleAll]

/-! ### `rightmost` -/

/-- `rightmost` is what its documentation says — an item with the highest end — for every set, sorted or not (the
sorted flag opens no fast path: a sorted set is ordered by begin first) -/
theorem rightmostScan_max : ∀ (l : List TSel) (acc : Option TSel),
    ∃ m, rightmostScan l acc = (if l = [] then acc else some m) ∧ (l ≠ [] → (∀ x ∈ l, x.e ≤ m.e) ∧ (∀ a, acc = some a → a.e ≤ m.e) ∧ (m ∈ l ∨ acc = some m))
  | [], acc => ⟨⟨0, 0⟩, rfl, fun h => absurd rfl h⟩
  | x :: xs, none => by
    obtain ⟨m, hm, h1, h2, h3⟩ := rightmostScan_some xs x
    exact ⟨m, hm, fun _ => ⟨List.forall_mem_cons.2 ⟨h1, h2⟩, nofun, .inl (List.mem_cons.2 h3.symm)⟩⟩
  | x :: xs, some a => by
    obtain ⟨m, hm, h1, h2, h3⟩ := rightmostScan_some (x :: xs) a
    exact ⟨m, hm, fun _ => ⟨h2, fun _ h => Option.some.inj h ▸ h1, h3.imp_right (congrArg some ·.symm)⟩⟩

theorem rightmost_is_max_end (s : TSet) (hne : s.items ≠ []) :
    ∃ m, s.rightmost = some m ∧ m ∈ s.items ∧ ∀ x ∈ s.items, x.e ≤ m.e := by
  obtain ⟨m, hm, hprop⟩ := rightmostScan_max s.items none
  obtain ⟨h1, _, h3⟩ := hprop hne
  refine ⟨m, by simp [TSet.rightmost, hm, hne], ?_, h1⟩
  rcases h3 with h | h
  · exact h
  · cases h

example : (⟨[⟨0, 10⟩, ⟨2, 3⟩], true⟩ : TSet).rightmost = some ⟨0, 10⟩ := by decide

/-! ### A test on singleton sets equals the test on their single members -/

theorem singleton_testSet (op : Op) (a c : TSel) (r : Res) (sorted : Bool) :
    testSet op a ⟨[c], sorted⟩ r = test op a c r := by
  simp only [testSet, test, relSetPos_singleton]

theorem singleton_setTest (op : Op) (a c : TSel) (r : Res) (sorted : Bool) :
    setTest op ⟨[a], sorted⟩ c r = test op a c r := by
  simp only [setTest, test, setRelPos_singleton, List.isEmpty_cons, Bool.false_eq_true, ↓reduceIte]

theorem singleton_setTestSet (op : Op) (a c : TSel) (r : Res) (s1 s2 : Bool) :
    setTestSet op ⟨[a], s1⟩ ⟨[c], s2⟩ r = test op a c r := by
  rw [singleton_left, singleton_testSet]

/-- EQUALS between two sets holds both ways round (the code checks both inclusions, and only those) -/
theorem set_equals_symm (s t : TSet) (r : Res) (al : Bool) (hs : s.items ≠ []) (ht : t.items ≠ []) :
    setTestSet (.equals al false) s t r = setTestSet (.equals al false) t s r := by
  have h1 : s.items.isEmpty = false := List.isEmpty_eq_false_iff.mpr hs
  have h2 : t.items.isEmpty = false := List.isEmpty_eq_false_iff.mpr ht
  simp only [setTestSet, setRelSetPos, h1, h2, Op.neg, Bool.false_eq_true, ↓reduceIte]
  exact Bool.and_comm _ _

/-- EQUALS between two sets does not count stored items: a set that holds a selection twice equals the set that holds
it once -/
theorem set_equals_ignores_repetition (a : TSel) (r : Res) (al : Bool) :
    setTestSet (.equals al false) ⟨[a, a], false⟩ ⟨[a], false⟩ r = true ∧
    setTestSet (.equals al false) ⟨[a], false⟩ ⟨[a, a], false⟩ r = true := by
  cases al <;> simp [setTestSet, setRelSetPos, relPos, Op.neg]

/-- **a singleton set against any set is its member against that set, for EQUALS**: `{a} EQUALS T` holds exactly when
`a EQUALS T` does — when `T` holds `a` and nothing else (a selection does not "equal" a larger set that
merely contains it) -/
theorem singleton_left_equals (a : TSel) (t : TSet) (r : Res) (al srt : Bool) :
    setTestSet (.equals al false) ⟨[a], srt⟩ t r = testSet (.equals al false) a t r :=
  singleton_left _ a srt t r

/-- a selection does not equal a larger set that contains it -/
example : testSet (.equals false false) ⟨0, 2⟩ ⟨[⟨0, 2⟩, ⟨3, 5⟩], false⟩ ⟨[]⟩ = false ∧
    testSet (.inset false false) ⟨0, 2⟩ ⟨[⟨0, 2⟩, ⟨3, 5⟩], false⟩ ⟨[]⟩ = true := by decide

/-! ### What does not hold on sets

The converses and symmetries above are theorems about pairs of ranges. On sets the code reads a relation without the
`all` modifier as "every member of the left set stands in the relation to some member of the right set", and with
`all` and a limit it reduces the left set to one extreme member: neither reading is symmetric. The property asks for
the laws "for every pair of sets"; the following are the counter-examples on the model, which the harness finds on the
implementation (`set-converse/…`, known findings of C13). -/

/-- OVERLAPS on sets is not symmetric: `{[0,1)}` against `{[0,1), [1,2)}` -/
theorem set_overlaps_not_symmetric :
    setTestSet (.overlaps false false) ⟨[⟨0, 1⟩], false⟩ ⟨[⟨0, 1⟩, ⟨1, 2⟩], false⟩ ⟨[]⟩ = true ∧
    setTestSet (.overlaps false false) ⟨[⟨0, 1⟩, ⟨1, 2⟩], false⟩ ⟨[⟨0, 1⟩], false⟩ ⟨[]⟩ = false := by decide

/-- EMBEDS on sets is not the converse of EMBEDDED: `{[0,1)}` against `{[0,1), [3,5)}` -/
theorem set_embeds_not_converse_of_embedded :
    setTestSet (.embeds false false) ⟨[⟨0, 1⟩], false⟩ ⟨[⟨0, 1⟩, ⟨3, 5⟩], false⟩ ⟨[]⟩ = true ∧
    setTestSet (.embedded false false none) ⟨[⟨0, 1⟩, ⟨3, 5⟩], false⟩ ⟨[⟨0, 1⟩], false⟩ ⟨[]⟩ = false := by decide

/-- BEFORE on sets is not the converse of AFTER: `{[0,1), [6,7)}` against `{[3,4)}` -/
theorem set_before_not_converse_of_after :
    setTestSet (.after false false none) ⟨[⟨3, 4⟩], false⟩ ⟨[⟨0, 1⟩, ⟨6, 7⟩], false⟩ ⟨[]⟩ = true ∧
    setTestSet (.before false false none) ⟨[⟨0, 1⟩, ⟨6, 7⟩], false⟩ ⟨[⟨3, 4⟩], false⟩ ⟨[]⟩ = false := by decide

/-! ### Non-vacuity: concrete instances on which the hypotheses hold and the tests are not constant -/

example : test (.overlaps false false) ⟨2, 5⟩ ⟨4, 9⟩ ⟨[]⟩ = true ∧ test (.overlaps false false) ⟨2, 4⟩ ⟨4, 9⟩ ⟨[]⟩ = false := by decide
example : (⟨2, 5⟩ : TSel).WF ∧ test (.equals false false) ⟨2, 5⟩ ⟨2, 5⟩ ⟨[]⟩ = true := by decide
example : test (.precedes false false true) ⟨0, 2⟩ ⟨4, 6⟩ ⟨[false, false, true, true, false, false]⟩ = true
    ∧ test (.precedes false false true) ⟨0, 2⟩ ⟨4, 6⟩ ⟨[false, false, true, false, false, false]⟩ = false := by decide
example : setTestSet (.sameend true true) ⟨[⟨0, 3⟩, ⟨1, 2⟩], false⟩ ⟨[⟨2, 3⟩], false⟩ ⟨[]⟩ = false := by decide

/-! ### Tie to the source: the relation arms are regenerated from `src/textselection.rs` on every run -/

/-- **the model's pairwise test is the source's**: `Stam.Gen.relPos` is what the translator renders from the arms of
`impl TestTextSelection for TextSelection :: test` as they are in /repo now; on every operator without `negate` it
computes what the model (`relPos`, which every theorem above is about) computes. -/
theorem source_arms_are_the_model (op : Op) (a c : TSel) (r : Res) (h : op.neg = false) :
    Gen.relPos op a c r = some (relPos op a c r) := gen_relPos_agrees op a c r h

/-- … and on every operator with `negate` the source has no arm of its own: it negates the arm of `toggle_negate`,
which is what `test` does. -/
theorem source_test_is_the_model (op : Op) (a c : TSel) (r : Res) :
    test op a c r = (if op.neg then (Gen.relPos op.toggleNeg a c r).map (!·) else Gen.relPos op a c r).getD false := by
  cases h : op.neg
  · simp only [test, h, gen_relPos_agrees _ a c r h, Bool.false_eq_true, ↓reduceIte, Option.getD_some]
  · have h2 : op.toggleNeg.neg = false := by
      rw [Op.neg_toggleNeg, h]
      rfl
    simp only [test, h, gen_relPos_agrees _ a c r h2, relPos_toggleNeg, ↓reduceIte, Option.map_some, Option.getD_some]

/-- the recursive arm names all twelve operators (none falls through to `unreachable!`) -/
theorem source_negation_arm_complete : Gen.negatedArm.length = 12 := by
  rw [gen_negatedArm_complete]; decide

end Stam.C13
