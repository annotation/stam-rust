import StamModel.StamqlA
import StamModel.Props.C09Total
/-
  C09 — "for every input string the query parser returns either a query or a syntax error — it never panics", extended
  from SELECT queries (Props/C09Total) to ADD and DELETE queries with their assignments (StamqlA.lean):
  `parseQueryAll_never_panics`.

  `NoPanic` says less than `Safe` (Props/C09Total), whose trimmed remainder makes the byte-wide slices of
  `parse_subqueries` land on `{`, `|` or `}`; it is enough here because `subqueries` trims before it enters `subLoop`.
-/
namespace Stam.QL.C09T
open Stam.QL

def NoPanic {α} (o : Out α) : Prop := ∀ m, o ≠ .panic m

theorem noPanic_of_safeO {β} (o : Out (β × Str)) (h : SafeO o) : NoPanic o := fun m => po_not_panic o m h
theorem noPanic_of_safe {α} (o : Out (α × Str)) (h : Safe o) : NoPanic o := noPanic_of_safeO o h

/-- a result that is no panic is an `ok` or an error -/
@[elab_as_elim]
theorem NoPanic.elim {α} {motive : Out α → Prop} {o : Out α} (h : NoPanic o)
    (ok : ∀ a, motive (.ok a)) (err : ∀ e, motive (.err e)) : motive o := by
  cases o with
  | ok a => exact ok a
  | err e => exact err e
  | panic m => exact absurd rfl (h m)

theorem noPanic_ok {α} (a : α) : NoPanic (Out.ok a) := nofun

theorem noPanic_err {α} (e : String) : NoPanic (Out.err e : Out α) := nofun

theorem asgValue_np (E : Ext) (v : Str) (ty : ArgType) : NoPanic (asgValue E v ty) := by
  intro m
  unfold asgValue
  repeat' split
  all_goals simp

theorem parseName_rest_trimmed (s : Str) (n : Option Str) (r : Str) (hs : trimStart s = s) (h : parseName s = (n, r)) :
    trimStart r = r := by
  have := parseName_trimmed s hs
  rw [h] at this; exact this

/-- `Assignment::parse` before the `;`: never a panic -/
theorem parseAsgCore_np (E : Ext) (q : Str) : NoPanic (parseAsgCore E q) := by
  unfold parseAsgCore
  refine iteInduction (fun _ => ?id) fun _ => iteInduction (fun _ => ?data) fun _ => iteInduction (fun _ => ?target) fun _ =>
    iteInduction (fun _ => noPanic_ok _) fun _ => iteInduction (fun _ => noPanic_ok _) fun _ => iteInduction (fun _ => noPanic_ok _) fun _ => noPanic_err _
  case id => exact arg_elim E.isDt (fun _ _ _ _ => noPanic_ok _) noPanic_err
  case data =>
    refine arg_elim E.isDt (fun set r _ _ => ?_) noPanic_err
    dsimp only
    refine arg_elim E.isDt (fun key r2 _ _ => ?_) noPanic_err
    refine iteInduction (fun _ => noPanic_ok _) fun _ => ?_
    refine arg_elim E.isDt (fun value r3 quoted _ => ?_) noPanic_err
    dsimp only
    exact (asgValue_np E value _).elim (fun _ => noPanic_ok _) noPanic_err
  case target =>
    cases h : parseName (trimStart (q.drop 6)) with
    | mk name r =>
      cases name with
      | none => exact noPanic_err _
      | some name =>
        dsimp only
        exact Safe.elim (parseOffset_safe E.parseI E.parseNat E.isDt r (parseName_rest_trimmed _ _ _ (trimStart_idem _) h))
          (fun _ _ _ => noPanic_ok _) noPanic_err

theorem parseAsg_np (E : Ext) (q : Str) : NoPanic (parseAsg E q) := by
  unfold parseAsg
  refine (parseAsgCore_np E q).elim (fun p => ?_) noPanic_err
  obtain ⟨a, r⟩ := p
  dsimp only
  split <;> exact noPanic_ok _

theorem asgLoop_np (E : Ext) : ∀ (f : Nat) (q : Str) (acc : List Asg), NoPanic (asgLoop E f q acc) := by
  intro f
  induction f with
  | zero => intro q acc; unfold asgLoop; exact noPanic_err _
  | succ f ih =>
    intro q acc
    unfold asgLoop
    refine iteInduction (fun _ => noPanic_ok _) fun _ => ?_
    exact (parseAsg_np E q).elim (fun p => ih _ _) noPanic_err

theorem subqueries_np (E : Ext) (q : Str) : NoPanic (subqueries E q) := by
  unfold subqueries
  exact iteInduction (fun h => noPanic_of_safe _ ((select_sub_safe E _).2 _ _ (Or.inl h))) fun _ => noPanic_ok _

theorem parseAdd_np (E : Ext) (q0 : Str) : NoPanic (parseAdd E q0) := by
  unfold parseAdd
  cases annotationWord (trimStart (q0.drop 3)) with
  | none => exact noPanic_err _
  | some q1 =>
    dsimp only
    split
    · exact noPanic_err _
    · refine (asgLoop_np E _ _ []).elim (fun p => ?_) noPanic_err
      obtain ⟨asgs, q4⟩ := p
      dsimp only
      exact (subqueries_np E q4).elim (fun _ => noPanic_ok _) noPanic_err

theorem parseDelete_np (E : Ext) (q0 : Str) : NoPanic (parseDelete E q0) := by
  unfold parseDelete
  cases annotationWord (trimStart (q0.drop 6)) with
  | none => exact noPanic_err _
  | some q1 =>
    dsimp only
    exact (subqueries_np E _).elim (fun _ => noPanic_ok _) noPanic_err

/-- **C09 (totality, all three query types).** For every input text, `Query::parse` — SELECT, ADD (with any assignments)
and DELETE queries, sub-queries to any depth — answers a query or a syntax error, never a panic: the fixed-width slices
of `parse_add`, `parse_delete`, `Assignment::parse` and `parse_subqueries` are never taken inside a character. -/
theorem parseQueryAll_never_panics (E : Ext) (s : Str) : (parseQueryAll E s).isPanic = false := by
  refine Out.isPanic_eq_false_iff.mpr ?_
  show NoPanic _
  unfold parseQueryAll
  refine iteInduction (fun _ => noPanic_err _) fun _ => iteInduction (fun _ => ?_) fun _ =>
    iteInduction (fun _ => parseAdd_np E _) fun _ => iteInduction (fun _ => parseDelete_np E _) fun _ => noPanic_err _
  exact Safe.elim ((select_sub_safe E _).1 _) (fun _ _ _ => noPanic_ok _) noPanic_err

end Stam.QL.C09T
