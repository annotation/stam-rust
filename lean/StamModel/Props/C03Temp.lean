import StamModel.Props.C03
import StamModel.Props.C19Temp
import StamModel.Lemmas.TempId
/-
  C03 — the temporary identifier a store hands out for an item without public identifier (`!A<handle>`) is read by the
  lookup (`tempId`, the store model's `resolve_temp_id`) as that handle, for every handle a 64-bit machine can hold;
  with `temp_exact` (Props/C03.lean) the lookup of that text then answers the live item in that slot and nothing else.
-/
namespace Stam.C03
open Stam Stam.Csv.Dec

theorem digitChar_range (d : Nat) (h : d < 10) : ('0' ≤ digitChar d && digitChar d ≤ '9') = true := by
  rw [le_nine_eq_isDigit]
  exact Stam.C19.digitChar_isDigit d h

theorem parseUsize_showDec (n : Nat) (hn : n < 2 ^ 64) : parseUsize (showDec n) = some n := by
  simp [parseUsize_eq, Stam.C19.digitsToNat_showDec, Option.filter, hn]

/-- **the identifier a store hands out names its own slot** -/
theorem tempId_of_written (letter : Char) (n : Nat) (hn : n < 2 ^ 64) :
    tempId letter (String.ofList ('!' :: letter :: showDec n)) = some n := by
  simp only [tempId, String.toList_ofList, if_true, parseUsize_showDec n hn]

/-- and a handle that does not fit the machine word is refused, not wrapped -/
example : parseUsize (showDec (2 ^ 64)) = none ∧ parseUsize (showDec (2 ^ 64 - 1)) = some (2 ^ 64 - 1) := by decide

end Stam.C03
