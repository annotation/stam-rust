import StamModel.Lemmas.StamqlLex
/-
  C09 — STAMQL parsing is total and printing then parsing is a fixpoint: the lexical layer.

  What is proved here is about `StamModel/Stamql.lean`: argument typing (`get_arg_type`), argument splitting
  (`get_arg`) and the operator table (`parse_dataoperator`) against the operator printer
  (`DataOperator::to_string`). The grammar above this layer is modelled in StamqlC.lean, StamqlQ.lean and StamqlA.lean
  and proved in the other Props/C09* files. `@` attributes and the `[ … OR … ]` union are not modelled: for them, and
  for the tie between model and implementation, see the `stamql` family (DESIGN.md).
-/
namespace Stam.QL.C09
open Stam.QL

/-- on a quoted argument the numeric flag starts false and stays false -/
theorem scanType_nonnumeric (s : Str) : ∀ (fp : Bool) (prev : Option Char) (r : Bool × Bool),
    scanType s false fp prev = some r → r.1 = false :=
  scanType_of_false s

/-- **a quoted argument is a string or a list, never a number, keyword or datetime** -/
theorem quoted_is_string_or_list (isDt : Str → Bool) (s : Str) :
    argType isDt s true = .string ∨ argType isDt s true = .list := by
  rw [argType_quoted]
  exact iteInduction (motive := fun t => t = ArgType.string ∨ t = ArgType.list) (fun _ => .inl rfl) (fun _ => .inr rfl)

theorem scanType_nopipe (s : Str) (hp : '|' ∉ s) : ∀ (num fp : Bool) (prev : Option Char),
    scanType s num fp prev ≠ none := by
  induction s with
  | nil => intro _ _ _; simp [scanType]
  | cons c cs ih =>
    intro num fp prev
    have hc : c ≠ '|' := fun h => hp (by simp [h])
    have hcs : '|' ∉ cs := fun h => hp (by simp [h])
    unfold scanType
    simp only [hc, false_and, ↓reduceIte]
    exact ih hcs _ _ _

/-- a quoted argument without list separator is a string -/
theorem quoted_nopipe_is_string (isDt : Str → Bool) (s : Str) (hp : '|' ∉ s) : argType isDt s true = .string := by
  rw [argType_quoted, if_pos (.inr (Option.isSome_iff_ne_none.mpr (scanType_nopipe s hp _ _ _)))]

/-- what the type says about the argument: Bool ⇒ it spells true/false; Datetime ⇒ the datetime parser accepts it -/
theorem argType_bool (isDt : Str → Bool) (s : Str) (q : Bool) (h : argType isDt s q = .bool) :
    s = ['t', 'r', 'u', 'e'] ∨ s = ['f', 'a', 'l', 's', 'e'] :=
  (argType_spelling isDt s q).1 h

theorem argType_datetime (isDt : Str → Bool) (s : Str) (q : Bool) (h : argType isDt s q = .datetime) :
    isDt s = true :=
  (argType_spelling isDt s q).2 h

/-- **C09 (no panic in `parse_dataoperator`).** Whatever the operator token and the argument, typed by
`get_arg_type` itself, the result is an operator or a syntax error — never one of the panic sites. -/
theorem parseOp_never_panics (parseI : Str → Option Int) (parseF : Str → Bool) (isDt : Str → Bool)
    (opstr value : Str) (quoted : Bool) :
    (parseOp parseI parseF isDt opstr value (argType isDt value quoted)).isPanic = false :=
  parseOp_isPanic parseI parseF isDt opstr value _ (argType_bool isDt value quoted) (argType_datetime isDt value quoted)

theorem getArgAux_in_quote (isDt : Str → Bool) (all : Str) (rest : Str) :
    ∀ (v : Str) (i b : Nat), ('"' ∉ v) → ('\\' ∉ v) →
      getArgAux isDt all (v ++ '"' :: rest) i true false b =
        some ((all.take (i + v.length)).drop b, trimStart rest, argType isDt ((all.take (i + v.length)).drop b) true) :=
  getArgAux_in_quotes isDt all rest

/-- **C09 (quoted values round-trip through `get_arg`).** A value without quote and backslash, written between
quotes and followed by anything, is read back exactly, typed as a quoted argument, and the remainder is what
followed (minus leading white space). -/
theorem getArg_quoted (isDt : Str → Bool) (v rest : Str) (hq : '"' ∉ v) (hb : '\\' ∉ v) :
    getArg isDt ('"' :: v ++ '"' :: rest) = some (v, trimStart rest, argType isDt v true) :=
  getArg_in_quotes isDt v rest hq hb

theorem scanType_digits (ds : Str) (hd : ∀ c ∈ ds, c.isDigit = true) : ∀ (prev : Option Char),
    scanType ds true false prev = some (true, false) := by
  induction ds with
  | nil => intro _; rfl
  | cons c cs ih =>
    intro prev
    have hc : c.isDigit = true := hd c (by simp)
    have hp : c ≠ '|' := by intro h; subst h; simp [Char.isDigit] at hc
    have hdot : c ≠ '.' := by intro h; subst h; simp [Char.isDigit] at hc
    unfold scanType
    simp only [hp, false_and, ↓reduceIte, hc, not_true_eq_false, hdot, and_false]
    exact ih (fun c' hc' => hd c' (by simp [hc'])) _

theorem argType_intLit (isDt : Str → Bool) (s : Str) (h : IntLit s) : argType isDt s false = .integer := by
  obtain ⟨ds, hne, hd, hs⟩ := h
  have hscan : scanType s true false none = some (true, false) := by
    rcases hs with hs | hs
    · rw [hs]; exact scanType_digits ds hd none
    · rw [hs]
      unfold scanType
      have : ('-' : Char) ≠ '|' := by decide
      simp only [this, false_and, ↓reduceIte]
      have h1 : ¬ ('-' : Char).isDigit = true := by decide
      have h2 : ('-' : Char) ≠ '.' := by decide
      simp only [h1, not_false_eq_true, h2, ne_eq, not_true_eq_false, or_self, ↓reduceIte, and_false]
      exact scanType_digits ds hd _
  have hne' : s.isEmpty = false := by
    rcases hs with hs | hs
    · rw [hs]; cases ds <;> simp_all
    · rw [hs]; rfl
  unfold argType
  simp [hne', hscan]

/-- the operators `to_string` can write, with values that survive: strings without quote, backslash and list
separator; integers written by a printer whose output is an integer literal that the integer parser reads back;
float and datetime literals that are typed and accepted as such -/
def Printable (showI : Int → Str) (parseI : Str → Option Int) (parseF : Str → Bool) (isDt : Str → Bool) : Op → Prop
  | .any | .null | .tru | .fls => True
  | .eq s => '"' ∉ s ∧ '\\' ∉ s ∧ '|' ∉ s
  | .eqi n | .gt n | .ge n | .lt n | .le n => IntLit (showI n) ∧ parseI (showI n) = some n
  | .eqf l | .gtf l | .gef l | .ltf l | .lef l => argType isDt l false = .float ∧ parseF l = true
  | .eqd l | .gtd l | .ged l | .ltd l | .led l => argType isDt l false = .datetime
  | .not (.eq s) => '"' ∉ s ∧ '\\' ∉ s ∧ '|' ∉ s
  | .not (.eqi n) => IntLit (showI n) ∧ parseI (showI n) = some n
  | .not (.eqf l) => argType isDt l false = .float ∧ parseF l = true
  | .not .any | .not .null | .not .tru | .not .fls => True
  | _ => False

theorem kw_types (isDt : Str → Bool) :
    argType isDt ['a', 'n', 'y'] false = .any ∧ argType isDt ['n', 'u', 'l', 'l'] false = .null ∧
    argType isDt ['t', 'r', 'u', 'e'] false = .bool ∧ argType isDt ['f', 'a', 'l', 's', 'e'] false = .bool :=
  ⟨rfl, rfl, rfl, rfl⟩

/-- **C09 (operator fixpoint).** Every printable operator, printed by `to_string` and read back through
`get_arg_type` and `parse_dataoperator`, is the same operator. -/
theorem print_parse_op (showI : Int → Str) (parseI : Str → Option Int) (parseF : Str → Bool) (isDt : Str → Bool)
    (o : Op) (hp : Printable showI parseI parseF isDt o) :
    ∃ op v q, printOp showI o = some (op, v, q) ∧
      parseOp parseI parseF isDt op v (argType isDt v q) = .ok o := by
  obtain ⟨k1, k2, k3, k4⟩ := kw_types isDt
  cases o with
  | any => exact ⟨_, _, _, rfl, by simp [parseOp, k1]⟩
  | null => exact ⟨_, _, _, rfl, by simp [parseOp, k2]⟩
  | tru => exact ⟨_, _, _, rfl, by simp [parseOp, k3]⟩
  | fls => exact ⟨_, _, _, rfl, by rw [k4]; simp [parseOp]⟩
  | eq s => exact ⟨_, _, _, rfl, by rw [quoted_nopipe_is_string isDt s hp.2.2]; simp [parseOp]⟩
  | eqi n | gt n | ge n | lt n | le n =>
    exact ⟨_, _, _, rfl, by rw [argType_intLit isDt _ hp.1]; simp [parseOp, hp.2]⟩
  | eqf l | gtf l | gef l | ltf l | lef l =>
    exact ⟨_, _, _, rfl, by rw [hp.1]; simp [parseOp, hp.2]⟩
  | eqd l | gtd l | ged l | ltd l | led l =>
    exact ⟨_, _, _, rfl, by have hd := argType_datetime isDt l false hp; rw [hp]; simp [parseOp, hd]⟩
  | or os => exact absurd hp (by simp [Printable])
  | not o =>
    cases o with
    | eq s => exact ⟨_, _, _, rfl, by rw [quoted_nopipe_is_string isDt s hp.2.2]; simp [parseOp, Out.map]⟩
    | eqi n => exact ⟨_, _, _, rfl, by rw [argType_intLit isDt _ hp.1]; simp [parseOp, hp.2, Out.map]⟩
    | eqf l => exact ⟨_, _, _, rfl, by rw [hp.1]; simp [parseOp, hp.2, Out.map]⟩
    | any => exact ⟨_, _, _, rfl, by rw [k1]; simp [parseOp, Out.map]⟩
    | null => exact ⟨_, _, _, rfl, by rw [k2]; simp [parseOp, Out.map]⟩
    | tru => exact ⟨_, _, _, rfl, by rw [k3]; simp [parseOp, Out.map]⟩
    | fls => exact ⟨_, _, _, rfl, by rw [k4]; simp [parseOp, Out.map]⟩
    | _ => exact absurd hp (by simp [Printable])

/-! ## non-vacuity -/

example : IntLit ['-', '4', '2'] := ⟨['4', '2'], by decide, by decide, Or.inr rfl⟩

example : getArg (fun _ => false) ['"', 'm', 'y', ' ', 'v', 'a', 'l', 'u', 'e', '"', ' ', ';', ' ', 'r', 'e', 's', 't'] =
    some (['m', 'y', ' ', 'v', 'a', 'l', 'u', 'e'], [';', ' ', 'r', 'e', 's', 't'], .string) := by decide +kernel

example : argType (fun _ => false) ['1', '.', '5'] false = .float ∧ argType (fun _ => false) ['-'] false = .integer ∧
    argType (fun _ => false) ['a', '|', 'b'] true = .list ∧ argType (fun _ => false) ['n', 'u', 'l', 'l'] true = .string := by decide +kernel

end Stam.QL.C09
