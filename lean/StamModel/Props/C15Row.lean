import StamModel.Props.C15
import StamModel.Lemmas.Out
/-
  C15 — a whole row of the STAM CSV annotations table survives writing and reading.

  Proved here, about `StamModel/CsvRow.lean`:
   * `row_roundtrip` — for every target (a simple selector of any kind, or a Composite/Multi/Directional selector
     over any number of simple selectors of any kinds, range-compressed runs expanded) whose identifiers contain no
     `;` and are not empty, with well-formed cursors of either alignment, the reader builds from the written cells
     exactly the target that was written: every sub-selector reads ITS entry of every column;
   * `data_roundtrip` — the data cells give back exactly the (dataset, data) pairs, in order, also when consecutive
     items share a dataset;
   * `readTarget_never_panics` (C19) — no content of the eight target cells makes the reader panic.
-/
namespace Stam.C15
open Stam Stam.Csv

/-- decimal printing as far as the row needs it -/
structure NatFmt (showNat : Nat → S) (parseNat : S → Option Nat) : Prop where
  rt : ∀ n, parseNat (showNat n) = some n
  dig : ∀ n, (showNat n).head? ≠ some '-'
  zero : showNat 0 = ['0']
  nosemi : ∀ n, ';' ∉ showNat n
  ne : ∀ n, showNat n ≠ []

def IdOk (s : S) : Prop := s ≠ [] ∧ ';' ∉ s

def SubOk : Sub → Prop
  | .text r b e => IdOk r ∧ b.WF ∧ e.WF
  | .ann a none => IdOk a
  | .ann a (some (b, e)) => IdOk a ∧ b.WF ∧ e.WF
  | .res r => IdOk r
  | .set d => IdOk d
  | .key d k => IdOk d ∧ ';' ∉ k
  | .data d x => IdOk d ∧ ';' ∉ x

def TargetOk : Target → Prop
  | .simple s => SubOk s
  | .complex k subs => k.isComplex = true ∧ subs ≠ [] ∧ ∀ s ∈ subs, SubOk s

theorem showCursor_nosemi {showNat parseNat} (h : NatFmt showNat parseNat) (c : Cursor) : ';' ∉ showCursor showNat c := by
  cases c with
  | b n => exact h.nosemi n
  | e z =>
    simp only [showCursor]
    split
    · decide
    · split
      · intro hm; simp at hm; exact h.nosemi _ hm
      · exact h.nosemi _

theorem showCursor_ne {showNat parseNat} (h : NatFmt showNat parseNat) (c : Cursor) : showCursor showNat c ≠ [] := by
  cases c with
  | b n => exact h.ne n
  | e z => simp only [showCursor]; split <;> (try split) <;> simp [h.ne]

theorem kindStr_nosemi (k : Kind) : ';' ∉ kindStr k := (kindStr_table k (mem_kinds k)).2

theorem parseKind_kindStr (k : Kind) : parseKind (kindStr k) = some k := Csv.parseKind_kindStr k

theorem cells_nosemi {showNat parseNat} (h : NatFmt showNat parseNat) (s : Sub) (hs : SubOk s) :
    ';' ∉ cellResource s ∧ ';' ∉ cellAnnotation s ∧ ';' ∉ cellDataset s ∧ ';' ∉ cellBegin showNat s ∧
    ';' ∉ cellEnd showNat s ∧ ';' ∉ cellKey s ∧ ';' ∉ cellData s := by
  rcases s with ⟨r, b, e⟩ | ⟨a, _ | ⟨b, e⟩⟩ | r | d | ⟨d, k⟩ | ⟨d, x⟩ <;>
    simp only [SubOk, IdOk] at hs <;>
    simp [cellResource, cellAnnotation, cellDataset, cellBegin, cellEnd, cellKey, cellData, showCursor_nosemi h, hs]

theorem hasSemi_false (s : S) (h : ';' ∉ s) : hasSemi s = false := by
  simp [hasSemi, h]

/-- a column of a complex selector: position 0 is the selector's own (empty), position i+1 the i-th sub-selector's -/
theorem column_split (subs : List Sub) (f : Sub → S) (h : ∀ s ∈ subs, ';' ∉ f s) :
    splitSemi (packColumn (subs.map f)) = [] :: subs.map f :=
  split_packColumn _ (List.forall_mem_map.2 h)

theorem getOrLastP_at {α} (l : List α) (i : Nat) (x : α) (h : l[i]? = some x) : getOrLastP l i = .ok x := by
  rw [getOrLastP_eq l i (by rintro rfl; simp at h), h]
  rfl

theorem readSub_at {showNat parseNat} (h : NatFmt showNat parseNat) (subs : List Sub) (hok : ∀ s ∈ subs, SubOk s)
    (k0 : Kind) (j : Nat) (s : Sub) (hj : subs[j]? = some s) :
    readSub parseNat (k0 :: subs.map Sub.kind) ([] :: subs.map cellResource) ([] :: subs.map cellAnnotation)
      ([] :: subs.map cellDataset) ([] :: subs.map (cellBegin showNat)) ([] :: subs.map (cellEnd showNat))
      ([] :: subs.map cellKey) ([] :: subs.map cellData) (j + 1) = .ok s := by
  have hs : SubOk s := hok s (List.mem_of_getElem? hj)
  have g : ∀ (f : Sub → S), ([] :: subs.map f)[j + 1]? = some (f s) := by
    intro f
    simp [hj]
  have gk : (k0 :: subs.map Sub.kind)[j + 1]? = some s.kind := by
    simp [hj]
  have crt := cursor_roundtrip showNat parseNat h.rt h.dig h.zero
  unfold readSub
  rw [getOrLastP_at _ _ _ gk]
  -- (the arm of the reader is selected first: `simp` would work through all nine)
  rcases s with ⟨r, b, e⟩ | ⟨a, _ | ⟨b, e⟩⟩ | r | d | ⟨d, k⟩ | ⟨d, x⟩ <;>
    simp only [SubOk, IdOk] at hs <;>
    simp only [Sub.kind, Out.bind_ok] <;>
    simp [fun f => getOrLastP_at _ _ _ (g f), g, cellResource, cellAnnotation, cellDataset, cellBegin, cellEnd,
      cellKey, cellData, cursorOf, unwrapP, crt, showCursor_ne h, hs]

theorem readSubs_all {showNat parseNat} (h : NatFmt showNat parseNat) (subs : List Sub) (hok : ∀ s ∈ subs, SubOk s) (k0 : Kind) :
    ∀ (post pre : List Sub), subs = pre ++ post →
      readSubs parseNat (k0 :: subs.map Sub.kind) ([] :: subs.map cellResource) ([] :: subs.map cellAnnotation)
        ([] :: subs.map cellDataset) ([] :: subs.map (cellBegin showNat)) ([] :: subs.map (cellEnd showNat))
        ([] :: subs.map cellKey) ([] :: subs.map cellData) (pre.length + 1) post.length = .ok post := by
  intro post
  induction post with
  | nil => intro pre _; simp [readSubs]
  | cons s rest ih =>
    intro pre hsplit
    have hj : subs[pre.length]? = some s := by rw [hsplit]; simp
    have h1 := readSub_at h subs hok k0 pre.length s hj
    have h2 := ih (pre ++ [s]) (by rw [hsplit]; simp)
    simp only [List.length_append, List.length_cons, List.length_nil, Nat.zero_add] at h2
    simp only [List.length_cons, readSubs, h1, h2, Out.bind]

/-- **C15 (row round trip).** The target read from the cells written for a target is that target. -/
theorem row_roundtrip (showNat : Nat → S) (parseNat : S → Option Nat) (h : NatFmt showNat parseNat) (t : Target) (ht : TargetOk t) :
    readTarget parseNat (writeRow showNat t) = .ok t := by
  cases t with
  | simple s =>
    have crt := cursor_roundtrip showNat parseNat h.rt h.dig h.zero
    obtain ⟨cr, ca, cd, cb, ce, ck, cx⟩ := cells_nosemi h s ht
    unfold readTarget writeRow
    have hkind : splitSemi (kindStr s.kind) = [kindStr s.kind] := by
      simpa [splitSemi] using splitSemi_append (kindStr s.kind) [] (kindStr_nosemi _)
    simp only [hkind, List.map_cons, List.map_nil, parseKind_kindStr, optAllK, Option.map_some,
      Sub.kind_isComplex, Bool.false_eq_true, false_and, ↓reduceIte, Bool.not_false, hasSemi_false _ cr, hasSemi_false _ ca,
      hasSemi_false _ cd, hasSemi_false _ cb, hasSemi_false _ ce, hasSemi_false _ ck, hasSemi_false _ cx, Bool.or_self]
    rcases s with ⟨r, b, e⟩ | ⟨a, _ | ⟨b, e⟩⟩ | r | d | ⟨d, k⟩ | ⟨d, x⟩ <;>
      simp only [TargetOk, SubOk] at ht <;>
      simp [Sub.kind, cellResource, cellAnnotation, cellDataset, cellBegin, cellEnd, cellKey, cellData, cursorOf, crt,
        showCursor_ne h, ht]
  | complex k subs =>
    obtain ⟨hk, hne, hok⟩ := ht
    have hcells := fun s hs => cells_nosemi h s (hok s hs)
    simp only [imp_and, forall_and] at hcells
    obtain ⟨cr, ca, cd, cb, ce, ck, cx⟩ := hcells
    have hkinds : splitSemi (kindStr k ++ packColumn (subs.map (fun s => kindStr s.kind))) = kindStr k :: subs.map (fun s => kindStr s.kind) :=
      splitSemi_join _ _ (by simp [kindStr_nosemi])
    have hks : (subs.map Sub.kind).isEmpty = false := by
      simpa using hne
    have hpk : ∀ f : Sub → S, (packColumn (subs.map f)).isEmpty = false := by
      intro f
      cases subs with
      | nil => exact absurd rfl hne
      | cons x xs => simp [packColumn]
    unfold readTarget writeRow
    simp only [hkinds, List.map_cons, parseKind_kindStr, List.map_map, Function.comp_def, optAllK, optAllK_map_some, Option.map_some,
      hk, hks, hpk, Bool.false_eq_true, and_false, ↓reduceIte, Bool.not_true]
    rw [column_split _ _ cr, column_split _ _ cd, column_split _ _ ca, column_split _ _ ck, column_split _ _ cx,
      column_split _ _ cb, column_split _ _ ce]
    have hsubs := readSubs_all h subs hok k subs [] rfl
    simp only [List.length_nil, Nat.zero_add] at hsubs
    simp [hsubs]

theorem intercalate_split (vals : List S) (hne : vals ≠ []) (h : ∀ v ∈ vals, ';' ∉ v) :
    splitSemi (writeData.intercalateSemi vals) = vals := by
  cases vals with
  | nil => exact absurd rfl hne
  | cons v vs => rw [intercalateSemi_cons, splitSemi_join v vs h]

/-- **C15 (data cells).** The (dataset, data) pairs read from the two cells are the pairs written, in order — the
i-th data identifier is looked up in the i-th dataset. -/
theorem data_roundtrip (items : List (S × S)) (h : ∀ p ∈ items, IdOk p.1 ∧ IdOk p.2) :
    readData (writeData items).1 (writeData items).2 = items := by
  cases items with
  | nil => simp [readData, writeData, writeData.intercalateSemi]
  | cons p ps =>
    have hd : splitSemi (writeData.intercalateSemi ((p :: ps).map (·.2))) = (p :: ps).map (·.2) :=
      intercalate_split _ (by simp) (List.forall_mem_map.2 fun q hq => (h q hq).2.2)
    have hs : splitSemi (writeData.intercalateSemi ((p :: ps).map (·.1))) = (p :: ps).map (·.1) :=
      intercalate_split _ (by simp) (List.forall_mem_map.2 fun q hq => (h q hq).1.2)
    have hne : (writeData.intercalateSemi ((p :: ps).map (·.2))).isEmpty = false := by
      simp [intercalateSemi_cons, (h p (by simp)).2.1]
    unfold readData writeData
    simp only [hne, Bool.false_eq_true, ↓reduceIte, hd, hs]
    apply List.ext_getElem?
    intro i
    simp only [List.getElem?_map, List.getElem?_zipIdx]
    cases hi : (p :: ps)[i]? with
    | none => simp
    | some q => simp only [Option.map_some, Nat.zero_add, hi, Option.getD_some]

/-! ### the reader never panics (C19: whatever the cells hold) -/

theorem parseCursor_nopanic (parseNat : S → Option Nat) (s : S) : NoPanic (parseCursor parseNat s) :=
  .parseCursor parseNat s

theorem bind_nopanic {α β} (o : Out α) (f : α → Out β) (ho : NoPanic o) (hf : ∀ x, o = .ok x → NoPanic (f x)) : NoPanic (o.bind f) :=
  .bind' ho hf

theorem getOrLastP_nopanic {α} (l : List α) (i : Nat) (h : l ≠ []) : NoPanic (getOrLastP l i) := by
  rw [getOrLastP_eq l i h]
  exact .ok

-- (the elaborator puts expected types into whnf: on `NoPanic (readSubs … (maxlen - 1))`, a `match`, that runs the reader)
attribute [local irreducible] NoPanic

/-- every `unwrap` in the loop over the sub-selectors is guarded: whatever the lists hold (they come from `split`, so
none is empty), reading position `i` gives a sub-selector or an error -/
theorem readSub_nopanic (parseNat : S → Option Nat) (kinds : List Kind) (res ann dset beg en keys dat : List S) (i : Nat)
    (hk : kinds ≠ []) (hr : res ≠ []) (ha : ann ≠ []) (hd : dset ≠ []) :
    NoPanic (readSub parseNat kinds res ann dset beg en keys dat i) := by
  unfold readSub
  refine .bind (getOrLastP_nopanic _ _ hk) fun kind => ?_
  cases kind
  case text =>
    refine .bind (getOrLastP_nopanic _ _ hr) fun r => .ite .err ?_
    split
    · exact .err
    · refine .bind (parseCursor_nopanic _ _) fun b => ?_
      split
      · exact .err
      · exact .bind (parseCursor_nopanic _ _) fun e => .ok
  case ann =>
    refine .bind (getOrLastP_nopanic _ _ ha) fun a =>
      .ite .err (.ite' (fun hb => .ite' (fun _ => .err) fun he => ?_) fun _ => .ite .err .ok)
    -- both guards passed: the two entries exist
    have hb' : (beg[i]?).isSome = true := by
      simp only [Bool.and_eq_true] at hb
      exact hb.1
    have he' : (en[i]?).isSome = true := by
      cases h : en[i]? <;> simp [h] at he ⊢
    exact .bind (unwrapP_nopanic hb') fun _ => .bind (parseCursor_nopanic _ _) fun _ =>
      .bind (unwrapP_nopanic he') fun _ => .bind (parseCursor_nopanic _ _) fun _ => .ok
  case res => exact .bind (getOrLastP_nopanic _ _ hr) fun r => .ite .err .ok
  case set => exact .bind (getOrLastP_nopanic _ _ hd) fun d => .ite .err .ok
  case key | data =>
    refine .bind (getOrLastP_nopanic _ _ hd) fun d => ?_
    split
    · exact .err
    · exact .ite .err .ok
  all_goals exact .err

theorem readSubs_nopanic (parseNat : S → Option Nat) (kinds : List Kind) (res ann dset beg en keys dat : List S)
    (hk : kinds ≠ []) (hr : res ≠ []) (ha : ann ≠ []) (hd : dset ≠ []) :
    ∀ (n i : Nat), NoPanic (readSubs parseNat kinds res ann dset beg en keys dat i n) := by
  intro n
  induction n with
  | zero =>
    intro i
    exact .ok
  | succ n ih =>
    intro i
    exact .bind (readSub_nopanic parseNat kinds res ann dset beg en keys dat i hk hr ha hd) fun s =>
      .bind (ih (i + 1)) fun r => .ok

/-- **C19 for the annotations table.** Whatever the eight target cells of a row contain, the reader builds a target or
returns an error: none of its `unwrap`s and its `unreachable!` can be reached. -/
theorem readTarget_never_panics (parseNat : S → Option Nat) (row : Row) : NoPanic (readTarget parseNat row) := by
  unfold readTarget
  generalize optAllK ((splitSemi row.selectortype).map parseKind) = kinds
  rcases kinds with _ | _ | ⟨k0, ks⟩
  · exact .err
  · exact .err
  · refine .ite .err (.ite' (fun _ => .ite .err ?_) fun hc => ?_)
    · cases k0
      case text => exact cursors_nopanic ..
      case ann => exact .ite (cursors_nopanic ..) (.ite .ok .err)
      case res | set | key | data => exact .ok
      all_goals exact .err
    · -- the `unreachable!` stands behind the same test on `k0` that led here
      have hk : k0.isComplex = true := by simpa using hc
      exact .bind (readSubs_nopanic parseNat _ _ _ _ _ _ _ _ (List.cons_ne_nil _ _) (splitSemi_ne_nil _) (splitSemi_ne_nil _)
        (splitSemi_ne_nil _) _ _) fun subs => .ite' (fun _ => .ok) fun h => absurd hk h

example : TargetOk (.complex .comp [.text "r".toList (.b 0) (.e (-1)), .ann "a".toList none, .key "s".toList "k".toList]) := by
  refine ⟨rfl, by simp, ?_⟩
  intro s hs
  simp only [List.mem_cons, List.mem_nil_iff, or_false] at hs
  rcases hs with rfl | rfl | rfl
  · exact ⟨⟨by decide, by decide⟩, trivial, by simp [Cursor.WF]⟩
  · exact ⟨by decide, by decide⟩
  · exact ⟨⟨by decide, by decide⟩, by decide⟩

/-- consecutive items of one dataset followed by another dataset: every data identifier keeps its dataset -/
example : readData (writeData [("A".toList, "d1".toList), ("A".toList, "d2".toList), ("B".toList, "d3".toList)]).1
    (writeData [("A".toList, "d1".toList), ("A".toList, "d2".toList), ("B".toList, "d3".toList)]).2
    = [("A".toList, "d1".toList), ("A".toList, "d2".toList), ("B".toList, "d3".toList)] := by decide

end Stam.C15
