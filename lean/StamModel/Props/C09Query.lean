import StamModel.Lemmas.StamqlSelect
import StamModel.Props.C09Constraints
/-
  C09 — printing a SELECT query and parsing it again gives the same query (the query layer).

  Proved here, about `StamModel/StamqlQ.lean` (`Query::parse` → `parse_select` → `Constraint::parse`* → `parse_subqueries`,
  and `Query::to_string`), on top of the constraint layer (Props/C09Constraints.lean):
   * `query_roundtrip` — for every SELECT query (OPTIONAL or not, any of the six result types, with or without a name,
     any number of constraints, sub-queries nested to any depth and any number of them side by side) whose names can be
     written (`NameOk`: no white space, not ending in `;`) and whose constraints are printable (`CnPrintable`, the
     hypothesis of `constraint_roundtrip`), `parseQuery (printQ q) = (q, "")`: the same query, the whole text consumed;
   * `parseQuery` is `Query::parse` with the fuel `length + 1`: the theorem includes that this fuel suffices;
   * the hypothesis on names is needed: `name_with_nbsp_is_misread`.
-/
namespace Stam.QL.C09Q
open Stam.QL Stam.QL.C09

/-- the external functions as one record -/
def ext (parseI : Str → Option Int) (parseF : Str → Bool) (isDt : Str → Bool) (regexOk : Str → Bool) : Ext :=
  { parseI := parseI, parseF := parseF, isDt := isDt, regexOk := regexOk, parseNat := fun _ => none }

/-- a text that begins with a letter of the first five keywords is handed to their parser -/
theorem parseCnAll_old (parseI : Str → Option Int) (parseF : Str → Bool) (isDt : Str → Bool) (regexOk : Str → Bool)
    (parseNat : Str → Option Nat) (c0 : Char) (r0 : Str) (hc : c0 = 'I' ∨ c0 = 'D' ∨ c0 = 'S' ∨ c0 = 'T') (hn : NoTrailWs (c0 :: r0)) :
    parseCnAll parseI parseF isDt regexOk parseNat (c0 :: r0) = parseCn parseI parseF isDt regexOk (c0 :: r0) := by
  have hc0 : isWs c0 = false ∧ isSplit c0 = false ∧ c0 ≠ '@' ∧
      ∀ kw ∈ [kANNOTATION, kRESOURCE, kRELATION, kVALUE, kKEY, kLIMIT], kw.head? ≠ some c0 := by
    rcases hc with rfl | rfl | rfl | rfl <;> decide
  obtain ⟨hws, hs, hat, hkw⟩ := hc0
  have hw : ∀ kw ∈ [kANNOTATION, kRESOURCE, kRELATION, kVALUE, kKEY, kLIMIT], firstWord (c0 :: r0) ≠ kw := by
    intro kw hk heq
    apply hkw kw hk
    rw [← heq]
    simp [firstWord, List.takeWhile, hs]
  unfold parseCnAll parseCnMore
  simp only [trim_id c0 r0 hws hn]
  rw [if_neg (by simpa using hat), if_neg (hw _ (by decide)), if_neg (hw _ (by decide)), if_neg (hw _ (by decide)),
    if_neg (hw _ (by decide)), if_neg (hw _ (by decide)), if_neg (hw _ (by decide))]

theorem last_semi (a : Str) : (a ++ [';']).getLast? = some ';' := List.getLast?_concat

/-- A printable constraint of a keyword of `parseCn` is printed, beginning with a letter of its keyword and ending with `;`. -/
theorem printCn_printable (showI : Int → Str) (parseI : Str → Option Int) (parseF : Str → Bool) (isDt : Str → Bool) (regexOk : Str → Bool)
    (c : Cn) (hp : CnPrintable showI parseI parseF isDt regexOk c) :
    ∃ t c0, printCn showI c = some t ∧ t.head? = some c0 ∧ (c0 = 'I' ∨ c0 = 'D' ∨ c0 = 'S' ∨ c0 = 'T') ∧ t.getLast? = some ';' := by
  cases c with
  | id s => exact ⟨_, 'I', rfl, rfl, .inl rfl, last_semi _⟩
  | dataset s q => exact ⟨_, 'D', rfl, rfl, .inr (.inl rfl), last_semi _⟩
  | substore s => cases s <;> exact ⟨_, 'S', rfl, rfl, .inr (.inr (.inl rfl)), last_semi _⟩
  | text s nocase => cases nocase <;> exact ⟨_, 'T', rfl, rfl, .inr (.inr (.inr rfl)), last_semi _⟩
  | regex s => exact ⟨_, 'T', rfl, rfl, .inr (.inr (.inr rfl)), last_semi _⟩
  | dataKey set key q => exact ⟨_, 'D', rfl, rfl, .inr (.inl rfl), last_semi _⟩
  | keyValue set key o q =>
    obtain ⟨_, _, _, _, _, hpo, _⟩ := hp
    obtain ⟨op, v, qd, hpr, _⟩ := print_parse_op showI parseI parseF isDt o hpo
    obtain ⟨r, hr⟩ : ∃ r, renderOp showI o = some r := by simp [renderOp, hpr]
    have : printCn showI (.keyValue set key o q)
        = some (kDATA ++ qualStr q ++ [' '] ++ quote set ++ [' '] ++ quote key ++ [' '] ++ r ++ [';']) := by
      simp only [printCn, hr, Option.map_some]
    exact ⟨_, 'D', this, rfl, .inr (.inl rfl), last_semi _⟩
  | _ => exact absurd hp (by simp [CnPrintable])

/-- every printed constraint of the modelled kinds begins with a letter of its keyword and ends with `;` -/
theorem printCn_shape (showI : Int → Str) (parseI : Str → Option Int) (parseF : Str → Bool) (isDt : Str → Bool) (regexOk : Str → Bool)
    (c : Cn) (t : Str) (hp : CnPrintable showI parseI parseF isDt regexOk c) (h : printCn showI c = some t) :
    ∃ c0, t.head? = some c0 ∧ (c0 = 'I' ∨ c0 = 'D' ∨ c0 = 'S' ∨ c0 = 'T') ∧ t.getLast? = some ';' := by
  obtain ⟨t', c0, h', hs⟩ := printCn_printable showI parseI parseF isDt regexOk c hp
  cases h.symm.trans h'
  exact ⟨c0, hs⟩

theorem cons_of_head {α} (t : List α) (c : α) (h : t.head? = some c) : ∃ r, t = c :: r := List.head?_eq_some_iff.mp h

theorem printCn_some (showI : Int → Str) (parseI : Str → Option Int) (parseF : Str → Bool) (isDt : Str → Bool) (regexOk : Str → Bool)
    (c : Cn) (hp : CnPrintable showI parseI parseF isDt regexOk c) : ∃ t, printCn showI c = some t :=
  let ⟨t, _, h, _⟩ := printCn_printable showI parseI parseF isDt regexOk c hp
  ⟨t, h⟩

/-- A printable constraint of a keyword of `parseCn` is read back from its printed text whatever follows, for any parser of unsigned numbers. -/
theorem cnGood_parseCn (showI : Int → Str) (parseI : Str → Option Int) (parseF : Str → Bool) (isDt : Str → Bool) (regexOk : Str → Bool)
    (parseNat : Str → Option Nat) (c : Cn) (hp : CnPrintable showI parseI parseF isDt regexOk c) :
    ∃ t, CnGood ⟨parseI, parseF, isDt, regexOk, parseNat⟩ showI c t := by
  obtain ⟨t, c0, ht, hhead, hc0, hlast⟩ := printCn_printable showI parseI parseF isDt regexOk c hp
  obtain ⟨r0, rfl⟩ := cons_of_head t c0 hhead
  have hnt0 : NoTrailWs (c0 :: r0) := noTrail_of_getLast _ ';' hlast (by decide)
  have h0 : isWs c0 = false ∧ stopChar c0 = false := by
    rcases hc0 with rfl | rfl | rfl | rfl <;> decide
  refine ⟨_, ht, hnt0, ⟨c0, r0, rfl, h0⟩, ?_⟩
  intro rest hr
  have hrt := constraint_roundtrip showI parseI parseF isDt regexOk c _ rest hp ht hr
  -- the two sides are brought to the same form first: left to unification, `parseCn` is unfolded on both
  rw [List.cons_append] at hrt ⊢
  exact (parseCnAll_old parseI parseF isDt regexOk parseNat c0 (r0 ++ rest) hc0 (noTrail_append _ rest hnt0 hr)).trans hrt

/-- a printable constraint is read back from its printed text whatever follows (`constraint_roundtrip`), and that text
has the shape the constraint loop relies on -/
theorem cnGood_of_printable (showI : Int → Str) (parseI : Str → Option Int) (parseF : Str → Bool) (isDt : Str → Bool) (regexOk : Str → Bool)
    (c : Cn) (hp : CnPrintable showI parseI parseF isDt regexOk c) :
    ∃ t, CnGood (ext parseI parseF isDt regexOk) showI c t :=
  cnGood_parseCn showI parseI parseF isDt regexOk _ c hp

mutual
/-- names that can be written and printable constraints, at every level -/
def QPrintable (showI : Int → Str) (parseI : Str → Option Int) (parseF : Str → Bool) (isDt : Str → Bool) (regexOk : Str → Bool) : Q → Prop
  | .mk _ _ name cs subs => (∀ n, name = some n → NameOk n) ∧ (∀ c ∈ cs, CnPrintable showI parseI parseF isDt regexOk c) ∧
      QsPrintable showI parseI parseF isDt regexOk subs
def QsPrintable (showI : Int → Str) (parseI : Str → Option Int) (parseF : Str → Bool) (isDt : Str → Bool) (regexOk : Str → Bool) : List Q → Prop
  | [] => True
  | q :: r => QPrintable showI parseI parseF isDt regexOk q ∧ QsPrintable showI parseI parseF isDt regexOk r
end

mutual
theorem okq_of_printable (showI : Int → Str) (parseI : Str → Option Int) (parseF : Str → Bool) (isDt : Str → Bool) (regexOk : Str → Bool) :
    ∀ q : Q, QPrintable showI parseI parseF isDt regexOk q → OKQ (ext parseI parseF isDt regexOk) showI q
  | .mk _ _ name cs subs, h => by
    unfold QPrintable at h
    unfold OKQ
    exact ⟨h.1, fun c hc => cnGood_of_printable showI parseI parseF isDt regexOk c (h.2.1 c hc),
      okqs_of_printable showI parseI parseF isDt regexOk subs h.2.2⟩
theorem okqs_of_printable (showI : Int → Str) (parseI : Str → Option Int) (parseF : Str → Bool) (isDt : Str → Bool) (regexOk : Str → Bool) :
    ∀ l : List Q, QsPrintable showI parseI parseF isDt regexOk l → OKQs (ext parseI parseF isDt regexOk) showI l
  | [], _ => by unfold OKQs; trivial
  | q :: r, h => by
    unfold QsPrintable at h
    unfold OKQs
    exact ⟨okq_of_printable showI parseI parseF isDt regexOk q h.1, okqs_of_printable showI parseI parseF isDt regexOk r h.2⟩
end

theorem trimEnd_ws_suffix (c w : Str) (hc : NoTrailWs c) (hw : ∀ x ∈ w, isWs x = true) : trimEnd (c ++ w) = c :=
  trimEnd_ws_append c w hc hw

/-- the query fixpoint for any external functions, from the per-constraint facts -/
theorem roundtrip_of_okq (E : Ext) (showI : Int → Str) (q : Q) (t : Str) (hok : OKQ E showI q) (hp : printQ showI q = some t) :
    parseQuery E t = .ok (q, []) := by
  obtain ⟨c, hc, rfl, hnt⟩ := print_core E showI q t hok hp
  obtain ⟨y, rfl⟩ := coreQ_starts showI q c hc
  obtain ⟨htrim, hw⟩ := trim_query_text kSELECT (' ' :: y) (tailOf q) ⟨'S', _, rfl, by decide⟩ word_kSELECT splitStart_space hnt (tailOf_ws q)
  unfold parseQuery
  simp only [htrim]
  rw [if_neg (by simp [kSELECT]), hw, if_pos rfl]
  have hf := wQ_le showI q _ hc
  have := select_rt E showI q _ hok hc [] ((kSELECT ++ ' ' :: y).length + 1) goodRest_nil (by omega)
  rwa [List.append_nil] at this

/-- **C09 (query fixpoint).** A SELECT query with writable names and printable constraints, printed by `to_string`, is
parsed back by `Query::parse` as the same query, and the whole text is consumed. -/
theorem query_roundtrip (showI : Int → Str) (parseI : Str → Option Int) (parseF : Str → Bool) (isDt : Str → Bool) (regexOk : Str → Bool)
    (q : Q) (t : Str) (hq : QPrintable showI parseI parseF isDt regexOk q) (hp : printQ showI q = some t) :
    parseQuery (ext parseI parseF isDt regexOk) t = .ok (q, []) :=
  roundtrip_of_okq _ showI q t (okq_of_printable showI parseI parseF isDt regexOk q hq) hp

/-! ### non-vacuity and sharpness -/

/-- a query with a name, two constraints and two levels of sub-queries -/
def sample : Q :=
  .mk false .annotation (some ['a']) [.id ['x'], .text ['h', 'i'] true]
    [.mk true .text none [.dataKey ['s'] ['k'] .normal] [.mk false .data (some []) [] []], .mk false .resource (some ['r']) [] []]

/-- it meets the hypotheses -/
example : QPrintable (fun _ => ['7']) (fun _ => some 7) (fun _ => false) (fun _ => false) (fun _ => true) sample := by
  unfold sample QPrintable QsPrintable QPrintable QsPrintable QPrintable QsPrintable
  refine ⟨nameOk_some ?_, ?_, ⟨(fun _ h => nomatch h), ?_, ⟨nameOk_some ?_, by simp, trivial⟩, trivial⟩, ⟨nameOk_some ?_, by simp, trivial⟩, trivial⟩
  · unfold NameOk
    decide
  · simp only [List.forall_mem_cons, List.not_mem_nil, false_imp_iff, implies_true, and_true, CnPrintable, C09.Q]
    decide
  · simp only [List.forall_mem_cons, List.not_mem_nil, false_imp_iff, implies_true, and_true, CnPrintable, C09.Q]
    decide
  · unfold NameOk
    decide
  · unfold NameOk
    decide

/-- and it is printed -/
example : (printQ (fun _ => ['7']) sample).isSome = true := by decide

/-- the hypothesis on names is needed: a name that ends in a no-break space is printed as it is, and the parser's
`trim()` removes the space: the query that comes back has another name -/
theorem name_with_nbsp_is_misread :
    (match printQ (fun _ => []) (.mk false .annotation (some ['a', '\u00a0']) [] []) with
     | some t =>
       (match parseQuery (ext (fun _ => none) (fun _ => false) (fun _ => false) (fun _ => true)) t with
        | .ok (.mk _ _ (some n) _ _, _) => n == ['a']
        | _ => false)
     | none => false) = true := by decide +kernel

end Stam.QL.C09Q
