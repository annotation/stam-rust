import StamModel.Lemmas.Ranged
/-
  C01 ("asking an annotation for its targets returns exactly what it was built with") and C05 (targets survive the
  round trip with offsets and their alignment), for the members of complex selectors: whatever the loop of
  `subselectors` folds into internal ranges, iteration hands out again as it was — kind, handles, and the alignment
  of every offset.

  Only begin-aligned offsets are folded: a range hands its members out begin-aligned, so folding annotation selectors
  with end-aligned offsets (`Offset::whole()`) would change their alignment; the last example states that case.
-/
namespace Stam.Ranged
open Stam

/-- ranges run forward -/
def Sel.WF : Sel → Prop
  | .rtext _ b e => b ≤ e
  | .rann b e _ => b ≤ e
  | _ => True

/-- an annotation selector whose offset covers the whole text of its annotation names that annotation's own text
selection (text selections are stored once per resource and range) -/
def Sel.Cons (whole : Nat → Nat → Nat → Bool) (tsel : Nat → Option (Nat × Nat)) : Sel → Prop
  | .annoff a r t _ => whole a r t = true → tsel a = some (r, t)
  | _ => True

theorem expand_plain (tsel : Nat → Option (Nat × Nat)) (s : Sel) (h : s.isPlain = true) : expand tsel s = [s] := by
  cases s <;> simp [Sel.isPlain] at h <;> rfl

theorem range_snoc (n : Nat) (f : Nat → Sel) : (List.range (n + 1)).map f = (List.range n).map f ++ [f n] := by
  rw [List.range_succ, List.map_append]; rfl

/-- a member that joins the one stored last: the range that replaces it hands out what it handed out, then the member -/
theorem join_expand (whole : Nat → Nat → Nat → Bool) (tsel : Nat → Option (Nat × Nat)) (last s sub : Sel)
    (hj : join whole last s = some sub) (hw : last.WF) (hc1 : last.Cons whole tsel) (hc2 : s.Cons whole tsel) :
    expand tsel sub = expand tsel last ++ [s] ∧ sub.WF := by
  -- every arm grows a range by one at its end, `last` counting as a range of one member when it is not yet a range
  unfold join at hj
  split at hj <;> (try split at hj) <;> cases hj
  · -- text, text
    rename_i r t _ _ h
    obtain ⟨rfl, rfl⟩ := h
    refine ⟨?_, Nat.le_succ _⟩
    simp only [expand]
    rw [range_grow (Sel.text r · .bb) (by omega), range_one (Sel.text r · .bb)]
  · -- rtext, text
    rename_i r b e _ _ h
    obtain ⟨rfl, rfl⟩ := h
    refine ⟨?_, Nat.le_succ_of_le hw⟩
    simp only [expand]
    rw [range_grow (Sel.text r · .bb) (Nat.le_succ_of_le hw)]
  · -- ann, ann
    rename_i a _ h
    subst h
    refine ⟨?_, Nat.le_succ _⟩
    simp only [expand]
    rw [range_grow Sel.ann (by omega), range_one Sel.ann]
  · -- rann false, ann
    rename_i b e _ h
    subst h
    refine ⟨?_, Nat.le_succ_of_le hw⟩
    simp only [expand]
    rw [range_grow Sel.ann (Nat.le_succ_of_le hw)]
  · -- annoff, annoff: each offset names its annotation's own text selection
    rename_i a r t _ r2 t2 h
    obtain ⟨rfl, h1, h2⟩ := h
    refine ⟨?_, Nat.le_succ _⟩
    simp only [expand]
    rw [range_grow (annItem tsel) (by omega), range_one (annItem tsel)]
    simp only [annItem, hc1 h1, hc2 h2]
  · -- rann true, annoff
    rename_i b e _ r t h
    obtain ⟨rfl, h1⟩ := h
    refine ⟨?_, Nat.le_succ_of_le hw⟩
    simp only [expand]
    rw [range_grow (annItem tsel) (Nat.le_succ_of_le hw)]
    simp only [annItem, hc2 h1]

theorem expandAll_append (tsel : Nat → Option (Nat × Nat)) (a b : List Sel) :
    expandAll tsel (a ++ b) = expandAll tsel a ++ expandAll tsel b := by
  simp [expandAll, List.flatMap_append]

theorem plain_wf (s : Sel) (h : s.isPlain = true) : s.WF := by
  cases s <;> simp [Sel.isPlain] at h <;> trivial

theorem foldStep_spec (whole : Nat → Nat → Nat → Bool) (tsel : Nat → Option (Nat × Nat)) (acc : List Sel) (s : Sel)
    (hs : s.isPlain = true) (hsc : s.Cons whole tsel) (hacc : ∀ x ∈ acc, x.Cons whole tsel ∧ x.WF) :
    expandAll tsel (foldStep whole acc s) = expandAll tsel acc ++ [s] ∧
    (∀ x ∈ foldStep whole acc s, x.Cons whole tsel ∧ x.WF) := by
  have hnew : s.Cons whole tsel ∧ s.WF := ⟨hsc, plain_wf s hs⟩
  rcases List.eq_nil_or_concat acc with rfl | ⟨init, last, rfl⟩
  · refine ⟨by simp [foldStep, expandAll, expand_plain tsel s hs], ?_⟩
    intro x hx
    cases List.mem_singleton.1 hx
    exact hnew
  · simp only [List.concat_eq_append, List.forall_mem_append, List.forall_mem_singleton] at hacc
    obtain ⟨hinit, hlc, hlw⟩ := hacc
    simp only [foldStep, List.concat_eq_append, List.getLast?_concat, List.dropLast_concat]
    cases hj : join whole last s with
    | none =>
      simp only [expandAll_append, List.forall_mem_append, List.forall_mem_singleton]
      exact ⟨by simp [expandAll, expand_plain tsel s hs], ⟨hinit, hlc, hlw⟩, hnew⟩
    | some sub =>
      obtain ⟨he, hw⟩ := join_expand whole tsel last s sub hj hlw hlc hsc
      simp only [expandAll_append, List.forall_mem_append, List.forall_mem_singleton]
      refine ⟨by simp [expandAll, he], hinit, ?_, hw⟩
      -- a range, which `Cons` does not constrain
      have := join_isPlain hj
      cases sub <;> simp [Sel.isPlain] at this <;> trivial

theorem foldl_spec (whole : Nat → Nat → Nat → Bool) (tsel : Nat → Option (Nat × Nat)) :
    ∀ (l acc : List Sel), (∀ s ∈ l, s.isPlain = true ∧ s.Cons whole tsel) → (∀ x ∈ acc, x.Cons whole tsel ∧ x.WF) →
      expandAll tsel (l.foldl (foldStep whole) acc) = expandAll tsel acc ++ l := by
  intro l
  induction l with
  | nil => intro acc _ _; simp
  | cons s r ih =>
    intro acc hl hacc
    obtain ⟨hs, hsc⟩ := hl s (List.mem_cons_self ..)
    obtain ⟨h1, h2⟩ := foldStep_spec whole tsel acc s hs hsc hacc
    rw [List.foldl_cons, ih _ (fun x hx => hl x (List.mem_cons_of_mem _ hx)) h2, h1]
    simp

/-- **the members of a complex selector come back as they were built**: for every list of simple members (any kinds,
any handles, offsets of any alignment), in a store where an offset that covers an annotation's whole text names that
annotation's text selection, iterating over what `subselectors` stored yields the list itself -/
theorem expand_fold (whole : Nat → Nat → Nat → Bool) (tsel : Nat → Option (Nat × Nat)) (l : List Sel)
    (hl : ∀ s ∈ l, s.isPlain = true ∧ s.Cons whole tsel) : expandAll tsel (fold whole l) = l := by
  unfold fold
  rw [foldl_spec whole tsel l [] hl (by intro x hx; simp at hx)]
  simp [expandAll]

/-- three words (annotations 0, 1, 2 on text selections 0, 1, 2 of resource 0) and a phrase over them -/
def wholeEx : Nat → Nat → Nat → Bool := fun a r t => r = 0 ∧ t = a
def tselEx : Nat → Option (Nat × Nat) := fun a => some (0, a)

example : fold wholeEx [.annoff 0 0 0 .bb, .annoff 1 0 1 .bb, .annoff 2 0 2 .bb, .res 0] = [.rann 0 2 true, .res 0] := by decide
example : expandAll tselEx [.rann 0 2 true, .res 0] = [.annoff 0 0 0 .bb, .annoff 1 0 1 .bb, .annoff 2 0 2 .bb, .res 0] := by decide
/-- end-aligned offsets stay as they are (they are not folded) -/
example : fold wholeEx [.annoff 0 0 0 .be, .annoff 1 0 1 .be] = [.annoff 0 0 0 .be, .annoff 1 0 1 .be] := by decide
/-- folding them would lose the alignment: the range hands out begin-aligned offsets -/
example : expandAll tselEx [.rann 0 1 true] ≠ [.annoff 0 0 0 .be, .annoff 1 0 1 .be] := by decide

end Stam.Ranged
