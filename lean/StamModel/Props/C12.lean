import StamModel.Lemmas.Utf8
/-
  C12 — Codepoint/byte conversion is exact and tuning knobs never change answers.
  `ws` is the list of UTF-8 widths of the text's code points; `idx` / `b2c` are arbitrary
  well-formed indices (whatever the milestone interval and the annotations made so far put there).
-/
namespace Stam.C12
open Stam

/-- every entry of the position index is a true (charpos, bytepos) pair of the text -/
def IdxWF (idx : List (Nat × Nat)) (ws : List Nat) : Prop :=
  ∀ e ∈ idx, e.1 ≤ ws.length ∧ e.2 = prefixB ws e.1
/-- every entry of byte2charmap is a true (bytepos, charpos) pair of the text -/
def B2cWF (b2c : List (Nat × Nat)) (ws : List Nat) : Prop :=
  ∀ e ∈ b2c, e.2 ≤ ws.length ∧ e.1 = prefixB ws e.2

/-- `utf8byte` on a right index, everywhere: the naive count on `0 … length`, an error beyond -/
theorem utf8byte_spec (idx : List (Nat × Nat)) (ws : List Nat) (hw : WidthsWF ws) (hi : IdxWF idx ws) (p : Nat) :
    utf8byte idx ws p = if p ≤ ws.length then .ok (prefixB ws p) else .err "CursorOutOfBounds" := by
  rw [utf8byte_eq]
  split
  · next e hf =>
    have he : e.1 = p := of_decide_eq_true (List.find?_some hf :)
    obtain ⟨h1, h2⟩ := hi e (List.mem_of_find?_eq_some hf)
    rw [h2, he, if_pos (he ▸ h1)]
  · cases hpb : prevBelow idx p with
    | none => exact byteFrom_eq ws hw (0, 0) p (Nat.zero_le _) (prefixB_zero ws).symm (Nat.zero_le _)
    | some a =>
      obtain ⟨hm, hlt⟩ := prevBelow_mem idx p a hpb
      exact byteFrom_eq ws hw a p (hi a hm).1 (hi a hm).2 (Nat.le_of_lt hlt)

/-- **utf8byte agrees with naive counting** for every position `0 ≤ p ≤ length`, whatever the index -/
theorem utf8byte_naive (idx : List (Nat × Nat)) (ws : List Nat) (hw : WidthsWF ws) (hi : IdxWF idx ws)
    (p : Nat) (hp : p ≤ ws.length) : utf8byte idx ws p = .ok (prefixB ws p) := by
  rw [utf8byte_spec idx ws hw hi, if_pos hp]

/-- **positions beyond the text are an error** (not a number, not a panic) -/
theorem utf8byte_oob (idx : List (Nat × Nat)) (ws : List Nat) (hw : WidthsWF ws) (hi : IdxWF idx ws)
    (p : Nat) (hp : ws.length < p) : utf8byte idx ws p = .err "CursorOutOfBounds" := by
  rw [utf8byte_spec idx ws hw hi, if_neg (Nat.not_le.mpr hp)]

/-- **tuning knobs never change answers**: any two well-formed indices (any milestone interval, any
set of annotations made before) give identical results for every position, in or out of range. -/
theorem utf8byte_index_irrelevant (idx idx' : List (Nat × Nat)) (ws : List Nat) (hw : WidthsWF ws)
    (hi : IdxWF idx ws) (hi' : IdxWF idx' ws) (p : Nat) : utf8byte idx ws p = utf8byte idx' ws p := by
  rw [utf8byte_spec idx ws hw hi, utf8byte_spec idx' ws hw hi']

/-- `utf8byteToCharpos` on a right map, everywhere: the code point that starts at `byte`, else an error -/
theorem charpos_spec (b2c : List (Nat × Nat)) (ws : List Nat) (hw : WidthsWF ws) (hi : B2cWF b2c ws) (byte : Nat) :
    (∀ p, p ≤ ws.length → prefixB ws p = byte → utf8byteToCharpos b2c ws byte = .ok p) ∧
    ((∀ p, p ≤ ws.length → prefixB ws p ≠ byte) → utf8byteToCharpos b2c ws byte = .err "CursorOutOfBounds") := by
  rw [utf8byteToCharpos_eq]
  split
  · next e hf =>
    have he : e.1 = byte := of_decide_eq_true (List.find?_some hf :)
    obtain ⟨h1, h2⟩ := hi e (List.mem_of_find?_eq_some hf)
    exact ⟨fun p hp hpb => congrArg Out.ok (prefixB_inj ws hw e.2 p h1 hp (h2.symm.trans (he.trans hpb.symm))),
      fun hne => absurd (h2.symm.trans he) (hne e.2 h1)⟩
  · cases hpb : prevBelow b2c byte with
    | none => exact charFrom_eq ws hw (0, 0) byte (Nat.zero_le _) (prefixB_zero ws).symm (Nat.zero_le _)
    | some a =>
      obtain ⟨hm, hlt⟩ := prevBelow_mem b2c byte a hpb
      exact charFrom_eq ws hw a byte (hi a hm).1 (hi a hm).2 (Nat.le_of_lt hlt)

/-- **byte → code point on a boundary** -/
theorem charpos_of_boundary (b2c : List (Nat × Nat)) (ws : List Nat) (hw : WidthsWF ws) (hi : B2cWF b2c ws)
    (p : Nat) (hp : p ≤ ws.length) : utf8byteToCharpos b2c ws (prefixB ws p) = .ok p :=
  (charpos_spec b2c ws hw hi _).1 p hp rfl

/-- **a byte position inside a character (or past the end) is an error** -/
theorem charpos_inside_char (b2c : List (Nat × Nat)) (ws : List Nat) (hw : WidthsWF ws) (hi : B2cWF b2c ws)
    (byte : Nat) (hb : ∀ p, p ≤ ws.length → prefixB ws p ≠ byte) :
    utf8byteToCharpos b2c ws byte = .err "CursorOutOfBounds" :=
  (charpos_spec b2c ws hw hi byte).2 hb

/-- **round trip**: position → byte → position is the identity on `0 … length` inclusive -/
theorem inverse (idx b2c : List (Nat × Nat)) (ws : List Nat) (hw : WidthsWF ws) (hi : IdxWF idx ws)
    (hb : B2cWF b2c ws) (p : Nat) (hp : p ≤ ws.length) :
    ∃ byte, utf8byte idx ws p = .ok byte ∧ utf8byteToCharpos b2c ws byte = .ok p :=
  ⟨prefixB ws p, utf8byte_naive idx ws hw hi p hp, charpos_of_boundary b2c ws hw hb p hp⟩

theorem charpos_index_irrelevant (b2c b2c' : List (Nat × Nat)) (ws : List Nat) (hw : WidthsWF ws)
    (hi : B2cWF b2c ws) (hi' : B2cWF b2c' ws) (byte : Nat) :
    utf8byteToCharpos b2c ws byte = utf8byteToCharpos b2c' ws byte := by
  by_cases h : ∃ p, p ≤ ws.length ∧ prefixB ws p = byte
  · obtain ⟨p, hp, rfl⟩ := h
    rw [charpos_of_boundary b2c ws hw hi p hp, charpos_of_boundary b2c' ws hw hi' p hp]
  · have h' : ∀ p, p ≤ ws.length → prefixB ws p ≠ byte := fun p hp he => h ⟨p, hp, he⟩
    rw [charpos_inside_char b2c ws hw hi byte h', charpos_inside_char b2c' ws hw hi' byte h']

/-- **sub-selections**: positions relative to a selection `[b,e)` convert to bytes relative to the
selection's own text, and positions beyond the selection are an error -/
theorem utf8byteSub_naive (idx : List (Nat × Nat)) (ws : List Nat) (hw : WidthsWF ws) (hi : IdxWF idx ws)
    (b e rel : Nat) (hbe : b ≤ e) (he : e ≤ ws.length) (hr : rel ≤ e - b) :
    utf8byteSub idx ws b e rel = .ok (prefixB (ws.drop b) rel) := by
  have hrel : b + rel ≤ ws.length := Nat.le_trans (Nat.add_le_of_le_sub' hbe hr) he
  simp only [utf8byteSub, if_neg (Nat.not_lt.mpr hr), utf8byte_naive idx ws hw hi b (Nat.le_trans hbe he),
    utf8byte_naive idx ws hw hi (b + rel) hrel, prefixB_add, Nat.add_sub_cancel_left]

theorem utf8byteSub_oob (idx : List (Nat × Nat)) (ws : List Nat) (b e rel : Nat) (hr : e - b < rel) :
    utf8byteSub idx ws b e rel = .err "CursorOutOfBounds" := by
  unfold utf8byteSub
  simp [hr]

theorem charposSub_of_boundary (idx b2c : List (Nat × Nat)) (ws : List Nat) (hw : WidthsWF ws)
    (hi : IdxWF idx ws) (hb : B2cWF b2c ws) (b e rel : Nat) (hbe : b ≤ e) (he : e ≤ ws.length) (hr : rel ≤ e - b) :
    utf8byteToCharposSub idx b2c ws b e (prefixB (ws.drop b) rel) = .ok rel := by
  have hle : ¬ prefixB (ws.drop b) rel > prefixB ws e - prefixB ws b := by
    rw [prefixB_sub ws hbe, Nat.add_sub_cancel_left]
    exact Nat.not_lt.mpr (prefixB_mono _ hr)
  have hrel : b + rel ≤ ws.length := Nat.le_trans (Nat.add_le_of_le_sub' hbe hr) he
  simp only [utf8byteToCharposSub, utf8byte_naive idx ws hw hi b (Nat.le_trans hbe he), utf8byte_naive idx ws hw hi e he,
    if_neg hle, ← prefixB_add, charpos_of_boundary b2c ws hw hb (b + rel) hrel, Nat.add_sub_cancel_left]

/-- **byte-level text extraction**: the byte slice
`[utf8byte b, utf8byte e)` consists of exactly the bytes of code points `b … e-1`. -/
theorem slice_bytes (ws : List Nat) (b e : Nat) (hbe : b ≤ e) (he : e ≤ ws.length) :
    ((ws.drop b).take (e - b)).sum = prefixB ws e - prefixB ws b := by
  rw [prefixB_sub ws hbe, Nat.add_sub_cancel_left]
  rfl

example : WidthsWF [1, 2, 3, 4, 1] ∧ IdxWF [(2, 3), (4, 10)] [1, 2, 3, 4, 1] := by
  unfold WidthsWF IdxWF
  decide
example : utf8byte [(2, 3)] [1, 2, 3, 4, 1] 4 = .ok 10 ∧ utf8byte [] [1, 2, 3, 4, 1] 5 = .ok 11
    ∧ utf8byte [(2, 3)] [1, 2, 3, 4, 1] 6 = .err "CursorOutOfBounds" := by decide
example : utf8byteToCharpos [(3, 2)] [1, 2, 3, 4, 1] 6 = .ok 3 ∧
    utf8byteToCharpos [(3, 2)] [1, 2, 3, 4, 1] 7 = .err "CursorOutOfBounds" := by decide

end Stam.C12
