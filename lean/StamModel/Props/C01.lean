import StamModel.Lemmas.StoreOps
/-
  C01 — Reverse lookups agree with forward references after any history.
  The store's seven reverse indices are one edge list (Store.lean). `Inv`: it holds exactly the forward references of
  the live annotations, each once, in handle order. It holds after every history (`inv_run`, by `step_effect`) and
  makes every lookup the answer derived from the annotations themselves (`lookup_exact`).
-/
namespace Stam.C01
open Stam

inductive StoreOp where
  | addRes (id : String) (len : Nat)
  | addSet (id : String)
  | addData (d : DataReq)
  | annotate (id : Option String) (t : TargetReq) (ds : List DataReq)
  | rmAnn (r : Ref)
  | rmRes (id : String)
  | rmSet (id : String)
  | rmData (set : String) (d : Ref) (strict : Bool)
  | rmKey (set key : String) (strict : Bool)

def step (s : State) : StoreOp → Resp × State
  | .addRes id len => s.addRes id len
  | .addSet id => s.addSet id
  | .addData d => s.addData d
  | .annotate id t ds => s.annotate id t ds
  | .rmAnn r => s.rmAnn r
  | .rmRes id => s.rmRes id
  | .rmSet id => s.rmSet id
  | .rmData set d strict => s.rmData set d strict
  | .rmKey set key strict => s.rmKey set key strict

def run (ops : List StoreOp) : State := ops.foldl (fun s op => (step s op).2) State.empty

theorem inv_empty : Inv State.empty := by
  constructor
  · intro k h; simp [State.empty, getLive]
  · simp [State.empty]
  · simp [State.empty, EdgesSorted]

/-- every operation, succeeding or failing, only removes annotations (index kept exact) or appends and indexes one -/
theorem step_effect (s : State) (op : StoreOp) (hi : Inv s) :
    (Inv (step s op).2 ∧ Shrinks s (step s op).2) ∨ ∃ a, Pushed s (step s op).2 a := by
  cases op with
  | addRes id len => exact Or.inl (Shrunk.of_frame (addRes_frame s id len).1 (addRes_frame s id len).2 hi)
  | addSet id => exact Or.inl (Shrunk.of_frame (addSet_frame s id []).1 (addSet_frame s id []).2 hi)
  | addData d => exact Or.inl (Shrunk.of_frame (addData_frame s d).1 (addData_frame s d).2 hi)
  | annotate id t ds =>
    rcases annotate_cases s id t ds with ⟨h1, h2⟩ | ⟨_, _, _, _, _, hp⟩
    · exact Or.inl (Shrunk.of_frame h1 h2 hi)
    · exact Or.inr ⟨_, hp⟩
  | rmAnn r => exact Or.inl (rmAnn_shrunk s r hi)
  | rmRes id => exact Or.inl (rmRes_shrunk s id hi)
  | rmSet id => exact Or.inl (rmSet_shrunk s id hi)
  | rmData set d strict => exact Or.inl (rmData_shrunk s set d strict hi)
  | rmKey set key strict => exact Or.inl (rmKey_shrunk s set key strict hi)

/-- **one step**: whatever the operation and whether it succeeds or fails -/
theorem inv_step (s : State) (op : StoreOp) (hi : Inv s) : Inv (step s op).2 := by
  rcases step_effect s op hi with ⟨h, _⟩ | ⟨_, hp⟩
  · exact h
  · exact hp.inv hi

theorem inv_foldl (ops : List StoreOp) : ∀ s, Inv s → Inv (ops.foldl (fun s op => (step s op).2) s) :=
  fun _ hi => List.foldlRecOn ops _ hi fun s hi op _ => inv_step s op hi

/-- **every history, and every prefix of it** (a prefix is itself a history) -/
theorem inv_run (ops : List StoreOp) : Inv (run ops) := inv_foldl ops _ inv_empty

/-- the live annotations with their handles, in handle order -/
def liveList (s : State) : List (Nat × AnnM) :=
  (List.range s.anns.length).filterMap (fun h => (getLive s.anns h).map (fun a => (h, a)))

/-- the answer a lookup *should* give: the live annotations whose own target or data refer to `k` -/
def derived (s : State) (k : Key) : List Nat :=
  ((liveList s).filter (fun p => decide (k ∈ p.2.fwd))).map (·.1)

theorem mem_liveList (s : State) (h : Nat) (a : AnnM) : (h, a) ∈ liveList s ↔ getLive s.anns h = some a := by
  simp only [liveList, List.mem_filterMap, List.mem_range, Option.map_eq_some_iff]
  constructor
  · rintro ⟨x, _, a', ha, he⟩; cases he; exact ha
  · intro hl; exact ⟨h, getLive_lt _ _ _ hl, a, hl, rfl⟩

theorem strict_eq_of_mem_iff : ∀ (l1 l2 : List Nat), l1.Pairwise (· < ·) → l2.Pairwise (· < ·) →
    (∀ x, x ∈ l1 ↔ x ∈ l2) → l1 = l2 := by
  intro l1 l2 h1 h2 h
  exact pairwise_lt_ext h1 h2 h

theorem lookup_strict (s : State) (hi : Inv s) (k : Key) : (s.lookup k).Pairwise (· < ·) := by
  unfold State.lookup
  rw [List.pairwise_map, List.pairwise_filter]
  refine (hi.sorted.and hi.nodup).imp ?_
  intro e1 e2 ⟨h1, h2⟩ hk1 hk2
  exact Nat.lt_of_le_of_ne h1 fun hc => h2 (Prod.ext ((eq_of_beq hk1).trans (eq_of_beq hk2).symm) hc)

theorem derived_strict (s : State) (k : Key) : (derived s k).Pairwise (· < ·) := by
  unfold derived
  rw [List.pairwise_map]
  apply List.Pairwise.filter
  unfold liveList
  apply List.Pairwise.filterMap _ _ List.pairwise_lt_range
  intro a a' hlt b hb b' hb'
  simp only [Option.map_eq_some_iff] at hb hb'
  obtain ⟨_, _, rfl⟩ := hb
  obtain ⟨_, _, rfl⟩ := hb'
  exact hlt

/-- **reverse lookups are exact**: for every item, in every reachable state, the index answers with
exactly the live annotations whose own target or data refer to it - none missing, none extra, none
twice - in chronological order -/
theorem lookup_exact (s : State) (hi : Inv s) (k : Key) : s.lookup k = derived s k := by
  apply strict_eq_of_mem_iff _ _ (lookup_strict s hi k) (derived_strict s k)
  intro x
  rw [mem_lookup, hi.mem]
  simp only [derived, List.mem_map, List.mem_filter, decide_eq_true_eq]
  constructor
  · rintro ⟨a, ha, hk⟩; exact ⟨(x, a), ⟨(mem_liveList s x a).2 ha, hk⟩, rfl⟩
  · rintro ⟨p, ⟨hp, hk⟩, rfl⟩; exact ⟨p.2, (mem_liveList s p.1 p.2).1 hp, hk⟩

theorem lookup_exact_run (ops : List StoreOp) (k : Key) : (run ops).lookup k = derived (run ops) k :=
  lookup_exact _ (inv_run ops) k

/-- none twice -/
theorem lookup_nodup (ops : List StoreOp) (k : Key) : ((run ops).lookup k).Nodup :=
  (lookup_strict _ (inv_run ops) k).imp (fun h => Nat.ne_of_lt h)

/-- the total size of the index is the number of (annotation, distinct forward reference) pairs:
nothing stale is left behind by any removal -/
theorem edges_only_live (ops : List StoreOp) : ∀ e ∈ (run ops).edges,
    ∃ a, getLive (run ops).anns e.2 = some a ∧ e.1 ∈ a.fwd :=
  fun e he => ((inv_run ops).mem e.1 e.2).1 he

/-- asking an annotation for its targets returns exactly what it was built with: building an
annotation stores the resolved target and data unchanged under the new handle -/
theorem annotate_stores (s : State) (id : Option String) (t : TargetReq) (ds : List DataReq) (h : Nat)
    (hnew : h = (s.annotate id t ds).2.anns.length - 1)
    (hgrow : (s.annotate id t ds).2.anns.length = s.anns.length + 1) :
    ∃ tm data, (s.target t).1 = some tm ∧ ((s.target t).2.insertDataList ds).1 = some data ∧
      getLive (s.annotate id t ds).2.anns h = some ⟨id, tm, data⟩ := by
  rcases annotate_cases s id t ds with ⟨h1, _⟩ | ⟨tm, data, ht, hd, _, hp⟩
  · rw [h1] at hgrow; omega
  · refine ⟨tm, data, ht, hd, ?_⟩
    rw [hnew, hp.anns, List.length_append, List.length_singleton, Nat.add_sub_cancel]
    exact getLive_append_last _ _

/-! ### Non-vacuity: a concrete history with a cascade, shared data and a complex selector -/
def demo : List StoreOp := [
  .addRes "r" 10,
  .annotate (some "a0") (.simple (.text "r" ⟨.b 0, .b 4⟩)) [⟨"s", some "k", some "s:v", none⟩],
  .annotate (some "a1") (.complex .multi [.text "r" ⟨.b 5, .b 7⟩, .text "r" ⟨.b 0, .b 4⟩]) [⟨"s", some "k", some "s:v", none⟩],
  .annotate (some "a2") (.simple (.ann (.id "a0"))) [],
  .rmAnn (.id "a0")]

example : (run demo).lookup (.tsel 0 0) = [1] ∧ (run demo).lookup (.data 0 0) = [1] ∧
    (run demo).lookup (.ann 0) = [] ∧ (run (demo.take 4)).lookup (.tsel 0 0) = [0, 1] ∧
    (run (demo.take 4)).lookup (.ann 0) = [2] := by decide

end Stam.C01
