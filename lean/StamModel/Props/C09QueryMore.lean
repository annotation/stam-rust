import StamModel.Props.C09Query
import StamModel.Props.C09More
/-
  C09 — the query fixpoint with the constraint kinds of Props/C09More.lean (RESOURCE, ANNOTATION with and without
  RECURSIVE, RELATION, VALUE) next to the first five, and with the parser of unsigned numbers
  a parameter as it is in the code: `query_roundtrip_all`.
-/
namespace Stam.QL.C09Q
open Stam.QL Stam.QL.C09

/-- all the external functions -/
def fullExt (parseI : Str → Option Int) (parseF : Str → Bool) (isDt : Str → Bool) (regexOk : Str → Bool) (parseNat : Str → Option Nat) : Ext :=
  { parseI := parseI, parseF := parseF, isDt := isDt, regexOk := regexOk, parseNat := parseNat }

/-- which constraints are printable: those of `CnPrintable`, and of the further kinds -/
def CnPrintableAll (showI : Int → Str) (parseI : Str → Option Int) (parseF : Str → Bool) (isDt : Str → Bool) (regexOk : Str → Bool)
    (parseNat : Str → Option Nat) : Cn → Prop
  | .resource s _ off => C09.Q s ∧ s ≠ kAS ∧ s ≠ kRECURSIVE ∧ isVar s = false ∧
      (∀ b e, off = some (b, e) → CursorOk showI parseI parseNat b ∧ CursorOk showI parseI parseNat e)
  | .annotation s _ _ off => C09.Q s ∧ s ≠ kAS ∧ s ≠ kRECURSIVE ∧ isVar s = false ∧
      (∀ b e, off = some (b, e) → CursorOk showI parseI parseNat b ∧ CursorOk showI parseI parseNat e)
  | .relation v op => Plain v ∧ op ∈ relationOps
  | .value o _ => Printable showI parseI parseF isDt o ∧ (∀ op v, printOp showI o = some (op, v, false) → PlainW v)
  | c => CnPrintable showI parseI parseF isDt regexOk c

theorem noTrail_semi (a : Str) : NoTrailWs (a ++ [';']) := noTrail_of_getLast _ ';' (last_semi a) (by decide)

theorem noTrail_rest (c0 : Char) (r0 rest : Str) (hn : NoTrailWs (c0 :: r0)) (hr : NoTrailWs rest) : NoTrailWs (c0 :: (r0 ++ rest)) :=
  noTrail_append (c0 :: r0) rest hn hr

/-- every printable constraint, of a keyword of `parseCn` or of `parseCnMore`, is read back from its printed text whatever follows -/
theorem cnGood_all (showI : Int → Str) (parseI : Str → Option Int) (parseF : Str → Bool) (isDt : Str → Bool) (regexOk : Str → Bool)
    (parseNat : Str → Option Nat) (c : Cn) (hp : CnPrintableAll showI parseI parseF isDt regexOk parseNat c) :
    ∃ t, CnGood (fullExt parseI parseF isDt regexOk parseNat) showI c t := by
  have hcn := cnGood_parseCn showI parseI parseF isDt regexOk parseNat c
  cases c with
  | resource s q off =>
    obtain ⟨hs, h1, h2, h3, ho⟩ := hp
    refine ⟨kRESOURCE ++ qualStr q ++ [' '] ++ quote s ++ offStr showI off ++ [';'], rfl, noTrail_semi _, ⟨'R', _, rfl, by decide, by decide⟩, ?_⟩
    intro rest hr
    have := resource_roundtrip_off parseI parseF isDt regexOk parseNat s rest (offStr showI off) q off hs h1 h2 h3 hr
      (parseOffset_offStr showI parseI parseNat isDt off rest ho)
    unfold Ext.cn fullExt
    simpa [List.append_assoc] using this
  | annotation s q rec off =>
    obtain ⟨hs, h1, h2, h3, ho⟩ := hp
    refine ⟨kANNOTATION ++ qualStr q ++ (if rec then [' '] ++ kRECURSIVE else [' ']) ++ [' '] ++ quote s ++ offStr showI off ++ [';'], rfl, noTrail_semi _,
      ⟨'A', _, rfl, by decide, by decide⟩, ?_⟩
    intro rest hr
    have := annotation_roundtrip_off parseI parseF isDt regexOk parseNat s rest (offStr showI off) q rec off hs h1 h2 h3 hr
      (parseOffset_offStr showI parseI parseNat isDt off rest ho)
    unfold Ext.cn fullExt
    simpa [List.append_assoc] using this
  | relation v op =>
    obtain ⟨hv, hop⟩ := hp
    refine ⟨kRELATION ++ [' ', '?'] ++ v ++ [' '] ++ op ++ [';'], rfl, noTrail_semi _, ⟨'R', _, rfl, by decide, by decide⟩, ?_⟩
    intro rest hr
    have := relation_roundtrip parseI parseF isDt regexOk parseNat v op rest hv hop hr
    unfold Ext.cn fullExt
    simpa [List.append_assoc] using this
  | value o q =>
    obtain ⟨hpo, hpl⟩ := hp
    obtain ⟨op, v, qd, hpr, hparse⟩ := print_parse_op showI parseI parseF isDt o hpo
    have hv : if qd then C09.Q v else PlainW v := by
      cases qd with
      | true => simpa using quoted_value_Q showI parseI parseF isDt o op v hpr hpo
      | false => simpa using hpl op v hpr
    refine ⟨kVALUE ++ qualStr q ++ [' '] ++ (op ++ [' '] ++ (if qd then ['"'] ++ v ++ ['"'] else v)) ++ [';'], ?_, noTrail_semi _,
      ⟨'V', _, rfl, by decide, by decide⟩, ?_⟩
    · simp [printCn, renderOp, hpr]
    · intro rest hr
      have := value_roundtrip showI parseI parseF isDt regexOk parseNat rest q o op v qd hpr hparse hv hr
      unfold Ext.cn fullExt
      cases qd <;> simpa [List.append_assoc, quote] using this
  | _ => exact hcn hp

mutual
def QPrintableAll (showI : Int → Str) (parseI : Str → Option Int) (parseF : Str → Bool) (isDt : Str → Bool) (regexOk : Str → Bool)
    (parseNat : Str → Option Nat) : Q → Prop
  | .mk _ _ name cs subs => (∀ n, name = some n → NameOk n) ∧ (∀ c ∈ cs, CnPrintableAll showI parseI parseF isDt regexOk parseNat c) ∧
      QsPrintableAll showI parseI parseF isDt regexOk parseNat subs
def QsPrintableAll (showI : Int → Str) (parseI : Str → Option Int) (parseF : Str → Bool) (isDt : Str → Bool) (regexOk : Str → Bool)
    (parseNat : Str → Option Nat) : List Q → Prop
  | [] => True
  | q :: r => QPrintableAll showI parseI parseF isDt regexOk parseNat q ∧ QsPrintableAll showI parseI parseF isDt regexOk parseNat r
end

mutual
theorem okq_all (showI : Int → Str) (parseI : Str → Option Int) (parseF : Str → Bool) (isDt : Str → Bool) (regexOk : Str → Bool) (parseNat : Str → Option Nat) :
    ∀ q : Q, QPrintableAll showI parseI parseF isDt regexOk parseNat q → OKQ (fullExt parseI parseF isDt regexOk parseNat) showI q
  | .mk _ _ name cs subs, h => by
    unfold QPrintableAll at h
    unfold OKQ
    exact ⟨h.1, fun c hc => cnGood_all showI parseI parseF isDt regexOk parseNat c (h.2.1 c hc),
      okqs_all showI parseI parseF isDt regexOk parseNat subs h.2.2⟩
theorem okqs_all (showI : Int → Str) (parseI : Str → Option Int) (parseF : Str → Bool) (isDt : Str → Bool) (regexOk : Str → Bool) (parseNat : Str → Option Nat) :
    ∀ l : List Q, QsPrintableAll showI parseI parseF isDt regexOk parseNat l → OKQs (fullExt parseI parseF isDt regexOk parseNat) showI l
  | [], _ => by unfold OKQs; trivial
  | q :: r, h => by
    unfold QsPrintableAll at h
    unfold OKQs
    exact ⟨okq_all showI parseI parseF isDt regexOk parseNat q h.1, okqs_all showI parseI parseF isDt regexOk parseNat r h.2⟩
end

/-- **C09 (query fixpoint, nine constraint kinds).** A SELECT query with writable names whose constraints are printable —
ID, DATASET, SUBSTORE, TEXT (plain, case-insensitive, regular expression), DATA (key, key and value), RESOURCE,
ANNOTATION (with or without RECURSIVE), both with or without an OFFSET clause of cursors of either alignment,
RELATION and VALUE, with or without `AS METADATA` where the grammar has it —
printed by `to_string`, is parsed back by `Query::parse` as the same query, and the whole text is consumed; for any
parsers of numbers and dates and any regular-expression compiler. -/
theorem query_roundtrip_all (showI : Int → Str) (parseI : Str → Option Int) (parseF : Str → Bool) (isDt : Str → Bool) (regexOk : Str → Bool)
    (parseNat : Str → Option Nat)
    (q : Q) (t : Str) (hq : QPrintableAll showI parseI parseF isDt regexOk parseNat q) (hp : printQ showI q = some t) :
    parseQuery (fullExt parseI parseF isDt regexOk parseNat) t = .ok (q, []) :=
  roundtrip_of_okq _ showI q t (okq_all showI parseI parseF isDt regexOk parseNat q hq) hp

/-! ### non-vacuity -/

/-- decimal digits of a small number, enough for the example -/
def showEx : Int → Str := fun z => if z = 3 then ['3'] else if z = -2 then ['-', '2'] else ['7']
def parseIEx : Str → Option Int := fun s => if s = ['-', '2'] then some (-2) else if s = ['-', '0'] then some 0 else some 7
def parseNatEx : Str → Option Nat := fun s => if s = ['3'] then some 3 else some 7

/-- a query over keywords of `parseCnMore`, with an offset clause and a sub-query -/
def sampleAll : Q :=
  .mk false .annotation (some ['a']) [.resource ['r'] .metadata (some (.b 3, .e (-2))), .annotation ['x'] .normal true none,
      .annotation ['y'] .normal false (some (.b 3, .e 0)), .id ['i']]
    [.mk false .text (some ['t']) [.relation ['a'] ['E', 'M', 'B', 'E', 'D', 'S']] []]

/-- the cursors of the examples are printed as words that `Cursor::try_from` reads back -/
theorem cursorOk_ex (c : Cursor) (h : c = .b 3 ∨ c = .e (-2) ∨ c = .e 0) : CursorOk showEx parseIEx parseNatEx c := by
  unfold CursorOk Plain
  rcases h with rfl | rfl | rfl
  · exact ⟨by decide, ⟨'3', [], rfl, by decide⟩, by decide⟩
  · exact ⟨by decide, ⟨'-', ['2'], rfl, by decide⟩, by decide⟩
  · exact ⟨by decide, ⟨'-', ['0'], rfl, by decide⟩, by decide⟩

example : QPrintableAll showEx parseIEx (fun _ => false) (fun _ => false) (fun _ => true) parseNatEx sampleAll := by
  have offset : ∀ b e : Cursor, (b = .b 3 ∨ b = .e (-2) ∨ b = .e 0) → (e = .b 3 ∨ e = .e (-2) ∨ e = .e 0) →
      ∀ b' e', some (b, e) = some (b', e') → CursorOk showEx parseIEx parseNatEx b' ∧ CursorOk showEx parseIEx parseNatEx e' := by
    intro b e hb he b' e' h
    cases h
    exact ⟨cursorOk_ex _ hb, cursorOk_ex _ he⟩
  unfold sampleAll QPrintableAll QsPrintableAll QPrintableAll QsPrintableAll
  refine ⟨nameOk_some ?_, ?_, ⟨nameOk_some ?_, ?_, trivial⟩, trivial⟩
  · unfold NameOk
    decide
  · simp only [List.forall_mem_cons, List.not_mem_nil, false_imp_iff, implies_true, and_true, CnPrintableAll, CnPrintable, C09.Q]
    refine ⟨⟨by decide, by decide, by decide, by decide, offset _ _ (by simp) (by simp)⟩, ⟨by decide, by decide, by decide, by decide, ?_⟩,
      ⟨by decide, by decide, by decide, by decide, offset _ _ (by simp) (by simp)⟩, by decide⟩
    intro b e h
    cases h
  · unfold NameOk
    decide
  · simp only [List.forall_mem_cons, List.not_mem_nil, false_imp_iff, implies_true, and_true, CnPrintableAll, Plain]
    decide

example : (printQ showEx sampleAll).isSome = true := by decide

end Stam.QL.C09Q
