import StamModel.Props.C19
import StamModel.Props.C15Dec
/-
  C19 / C03 — the text of a temporary identifier: what a store writes for an item without public identifier
  (`!A<handle>`, `!D<handle>`, … with the handle in decimal) is read back by `resolve_temp_id` as that handle, for
  every handle and every upper-case kind letter; with `load_accepts_increasing` (Props/C19Merge.lean) the numbers a
  store writes are thereby both parsed and placed.
-/
namespace Stam.C19
open Stam Stam.UT Stam.Csv.Dec

theorem digitChar_isDigit (d : Nat) (h : d < 10) : (digitChar d).isDigit = true := by
  revert d
  decide

theorem digitChar_val (d : Nat) (h : d < 10) : (digitChar d).toNat - 48 = d := by
  revert d
  decide

theorem foldl_digits (ds : List Nat) (hd : ∀ d ∈ ds, d < 10) (a : Nat) :
    (ds.map digitChar).foldl (fun n c => n * 10 + (c.toNat - 48)) a = ds.foldl (fun n d => n * 10 + d) a := by
  rw [List.foldl_map]
  exact List.foldl_rel (r := Eq) rfl fun d hdm _ _ h => by rw [h, digitChar_val d (hd d hdm)]

/-- the loader's own digit reader (`digitsToNat?`: all ASCII digits, then a fold) reads decimal text back -/
theorem digitsToNat_showDec (n : Nat) : digitsToNat? (showDec n) = some n := by
  have hall : (showDec n).all Char.isDigit = true :=
    List.all_eq_true.2 (List.forall_mem_map.2 fun d hd => digitChar_isDigit d (digits_lt n d hd))
  have hval : (showDec n).foldl (fun n c => n * 10 + (c.toNat - 48)) 0 = n := by
    rw [showDec, foldl_digits _ (digits_lt n) 0, digits_value]
  cases hs : showDec n with
  | nil => exact absurd hs (showDec_ne_nil n)
  | cons c cs =>
    rw [hs] at hall hval
    simp only [digitsToNat?, hall, if_true, hval]

/-- **temporary identifier round trip**: `!`, an upper-case kind letter, the handle in decimal — resolves to the handle -/
theorem tempId_roundtrip (kind : Char) (hk : isUpperChar kind = true) (n : Nat) :
    resolveTempId ('!' :: kind :: showDec n) = some n := by
  simp only [resolveTempId, hk, if_true, digitsToNat_showDec]

example : resolveTempId ('!' :: 'A' :: showDec 4096) = some 4096 := by decide
example : isUpperChar 'A' = true ∧ isUpperChar 'D' = true ∧ isUpperChar 'a' = false := by decide

end Stam.C19
