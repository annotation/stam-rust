import StamModel.Props.C15
/-
  C15 — `cursor_roundtrip` takes decimal printing and parsing of integers (std's `Display` / `FromStr`) as
  parameters with three hypotheses. Here the hypotheses are discharged for a concrete decimal printer and parser, so
  that the cursor round trip is a closed theorem: no assumption about the integer text is left open.
  (std itself stays in the trusted base: this is a model of it, not its code.)
-/
namespace Stam.Csv.Dec
open Stam Stam.Csv

def digitChar : Nat → Char
  | 0 => '0' | 1 => '1' | 2 => '2' | 3 => '3' | 4 => '4' | 5 => '5' | 6 => '6' | 7 => '7' | 8 => '8' | _ => '9'

def charDigit? : Char → Option Nat
  | '0' => some 0 | '1' => some 1 | '2' => some 2 | '3' => some 3 | '4' => some 4
  | '5' => some 5 | '6' => some 6 | '7' => some 7 | '8' => some 8 | '9' => some 9 | _ => none

/-- digits, least significant first -/
def digitsLE : (fuel : Nat) → Nat → List Nat
  | 0, _ => []
  | f + 1, n => if n < 10 then [n] else (n % 10) :: digitsLE f (n / 10)

/-- `Display for usize` -/
def showDec (n : Nat) : List Char := ((digitsLE (n + 1) n).reverse).map digitChar

def parseStep (acc : Option Nat) (c : Char) : Option Nat :=
  match acc, charDigit? c with
  | some n, some d => some (n * 10 + d)
  | _, _ => none

/-- `usize::from_str` on what the writer can produce: one or more decimal digits -/
def parseDec (cs : List Char) : Option Nat := if cs = [] then none else cs.foldl parseStep (some 0)

def ofLE : List Nat → Nat
  | [] => 0
  | d :: ds => d + 10 * ofLE ds

theorem charDigit_digitChar (d : Nat) (h : d < 10) : charDigit? (digitChar d) = some d := by
  revert d
  decide

theorem digitChar_ne_minus (d : Nat) : digitChar d ≠ '-' := by
  unfold digitChar; split <;> decide

theorem digitsLE_lt (f n : Nat) : ∀ d ∈ digitsLE f n, d < 10 := by
  induction f generalizing n with
  | zero => intro d hd; cases hd
  | succ f ih =>
    intro d hd
    unfold digitsLE at hd
    split at hd
    · simp at hd; omega
    · rcases List.mem_cons.mp hd with rfl | h
      · omega
      · exact ih _ d h

theorem ofLE_digitsLE (f n : Nat) (h : n < f) : ofLE (digitsLE f n) = n := by
  induction f generalizing n with
  | zero => omega
  | succ f ih =>
    unfold digitsLE
    split
    · simp [ofLE]
    · simp only [ofLE]; rw [ih (n / 10) (by omega)]; omega

theorem digitsLE_ne_nil (f n : Nat) : digitsLE (f + 1) n ≠ [] := by
  unfold digitsLE; split <;> simp

theorem foldl_parse (ds : List Nat) (hd : ∀ d ∈ ds, d < 10) (a : Nat) :
    (ds.map digitChar).foldl parseStep (some a) = some (ds.foldl (fun n d => n * 10 + d) a) := by
  rw [List.foldl_map]
  exact List.foldl_rel (r := fun acc n => acc = some n) rfl fun d hdm _ _ h => by
    simp only [h, parseStep, charDigit_digitChar d (hd d hdm)]

theorem foldl_reverse_ofLE (ds : List Nat) : ds.reverse.foldl (fun n d => n * 10 + d) 0 = ofLE ds := by
  induction ds with
  | nil => rfl
  | cons d ds ih => simp only [List.reverse_cons, List.foldl_append, List.foldl_cons, List.foldl_nil, ih, ofLE]; omega

/-- the digits `showDec` prints are below ten -/
theorem digits_lt (n : Nat) : ∀ d ∈ (digitsLE (n + 1) n).reverse, d < 10 :=
  fun d hd => digitsLE_lt (n + 1) n d (List.mem_reverse.1 hd)

/-- and are worth the number -/
theorem digits_value (n : Nat) : (digitsLE (n + 1) n).reverse.foldl (fun n d => n * 10 + d) 0 = n := by
  rw [foldl_reverse_ofLE, ofLE_digitsLE (n + 1) n (by omega)]

/-- `Display for usize` prints at least one digit -/
theorem showDec_ne_nil (n : Nat) : showDec n ≠ [] := by
  simp [showDec, digitsLE_ne_nil]

/-- decimal text round trip -/
theorem parse_show (n : Nat) : parseDec (showDec n) = some n := by
  rw [parseDec, if_neg (showDec_ne_nil n), showDec, foldl_parse _ (digits_lt n) 0, digits_value]

theorem show_head_ne_minus (n : Nat) : (showDec n).head? ≠ some '-' := by
  unfold showDec
  cases h : (digitsLE (n + 1) n).reverse with
  | nil => simp
  | cons d ds => simp [digitChar_ne_minus]

theorem show_zero : showDec 0 = ['0'] := by decide

/-- **cursor text round trip, closed**: with decimal integers, what `Display for Cursor` prints `TryFrom<&str>` reads
back as the same cursor with the same alignment — every begin-aligned cursor, every end-aligned one, `-0` included -/
theorem cursor_roundtrip_decimal (c : Cursor) (hc : c.WF) :
    parseCursor parseDec (showCursor showDec c) = .ok c :=
  Stam.C15.cursor_roundtrip showDec parseDec parse_show show_head_ne_minus show_zero c hc

example : showDec 1907 = ['1', '9', '0', '7'] ∧ parseDec ['0', '4', '2'] = some 42 ∧ parseDec [] = none ∧
    parseDec ['-', '1'] = none := by decide
example : showCursor showDec (.e (-12)) = ['-', '1', '2'] ∧ parseCursor parseDec ['-', '0'] = .ok (.e 0) := by decide

end Stam.Csv.Dec
