import StamModel.Props.C09QueryMore
/-
  C09 — printing an ADD or DELETE query and parsing it again gives the same query (StamqlA.lean: `Assignment::to_string`,
  `Query::to_string` on mutating queries; `parse_add`, `parse_delete`, `Assignment::parse`): `asg_rt` for one assignment,
  `query_roundtrip_three` for a query of any of the three types; `string_value_with_pipe_is_refused` shows a hypothesis needed.
-/
namespace Stam.QL.C09M
open Stam.QL Stam.QL.C09 Stam.QL.C09Q

/-- a float literal the lexer types as a float, the float parser accepts, and that can stand after a key -/
def FloatOk (E : Ext) (l : Str) : Prop :=
  Plain l ∧ (∃ h r, l = h :: r ∧ isWs h = false ∧ h ≠ ';' ∧ h ≠ ']' ∧ h ≠ 'O') ∧
  argType E.isDt l false = .float ∧ E.parseF l = true

/-- the values of a DATA assignment that survive printing: strings without quote, backslash and list separator; integers
written by a printer whose output is an integer literal that the integer parser reads back; float literals -/
def AValOk (showI : Int → Str) (E : Ext) : AVal → Prop
  | .null => True
  | .bool _ => True
  | .str s => '"' ∉ s ∧ '\\' ∉ s ∧ '|' ∉ s
  | .int z => IntLit (showI z) ∧ E.parseI (showI z) = some z
  | .float l => FloatOk E l

/-- the assignments that survive printing -/
def AsgOk (showI : Int → Str) (E : Ext) : Asg → Prop
  | .id s => C09.Q s
  | .data set key v => C09.Q set ∧ C09.Q key ∧ AValOk showI E v
  | .target name off => NameOk name ∧
      ∀ b e, off = some (b, e) → CursorOk showI E.parseI E.parseNat b ∧ CursorOk showI E.parseI E.parseNat e
  | .complex _ => True

theorem word_kID : Word kID := by unfold Word kID; decide
theorem word_kDATA : Word kDATA := by unfold Word kDATA; decide
theorem word_kTARGET : Word kTARGET := by unfold Word kTARGET; decide
theorem word_kw (k : CKind) : Word k.kw := by cases k <;> (unfold Word CKind.kw; decide)
theorem word_kANNOTATION : Word kANNOTATION := by unfold Word kANNOTATION; decide
theorem word_kWITH : Word kWITH := by unfold Word kWITH; decide
theorem word_kADD : Word kADD := by unfold Word kADD; decide
theorem word_kDELETE : Word kDELETE := by unfold Word kDELETE; decide

theorem intLit_plain (s : Str) (h : IntLit s) : Plain s := (intLit_open s h).1

theorem intLit_head (s : Str) (h : IntLit s) : ∃ c r, s = c :: r ∧ isWs c = false ∧ c ≠ ';' ∧ c ≠ ']' ∧ c ≠ 'O' :=
  (intLit_open s h).2

theorem parseAsg_of_core (E : Ext) (q : Str) (a : Asg) (rest : Str) (h : parseAsgCore E q = .ok (a, ';' :: rest)) :
    parseAsg E q = .ok (a, trimStart rest) := by
  unfold parseAsg; rw [h]; rfl

theorem drop_kw (w y : Str) : (w ++ y).drop w.length = y := List.drop_left

theorem id_core (E : Ext) (s rest : Str) (hs : C09.Q s) :
    parseAsgCore E (kID ++ ' ' :: quote s ++ ';' :: rest) = .ok (.id s, ';' :: rest) := by
  obtain ⟨hw, hd⟩ := word_text word_kID (n := 2) rfl
    (show kID ++ ' ' :: quote s ++ ';' :: rest = kID ++ (' ' :: (quote s ++ ';' :: rest)) by simp) splitStart_space
  unfold parseAsgCore
  simp only [hw, hd, ↓reduceIte, trimStart_space, trimStart_quote_app]
  rw [arg_quoted E.isDt s (';' :: rest) hs.1 hs.2, trimStart_semi]

theorem complex_core (E : Ext) (k : CKind) (rest : Str) :
    parseAsgCore E (k.kw ++ ' ' :: ';' :: rest) = .ok (.complex k, ';' :: rest) := by
  have hw : firstWord (k.kw ++ ' ' :: ';' :: rest) = k.kw := firstWord_append (word_kw k) splitStart_space
  unfold parseAsgCore
  simp only [hw]
  cases k <;>
    simp +decide [CKind.kw, kCOMPOSITE, kMULTI, kDIRECTIONAL, trimStart_space, trimStart_semi]

theorem trimEndSemis_semi (n : Str) (h : n.getLast? ≠ some ';') : trimEndSemis (n ++ [';']) = n := by
  have := trimEndSemis_id n h
  unfold trimEndSemis at this ⊢
  simpa using this

theorem word_name_semi (n : Str) (h : NameOk n) : Word (n ++ [';']) := by
  intro x hx
  rcases List.mem_append.mp hx with hx | hx
  · exact nameOk_word n h x hx
  · simp at hx; subst hx; decide

theorem target_core (showI : Int → Str) (E : Ext) (name : Str) (off : Option (Cursor × Cursor)) (rest : Str)
    (hn : NameOk name)
    (ho : ∀ b e, off = some (b, e) → CursorOk showI E.parseI E.parseNat b ∧ CursorOk showI E.parseI E.parseNat e)
    (hr : SplitStart rest) :
    parseAsgCore E (kTARGET ++ ' ' :: '?' :: name ++ offStr showI off ++ ';' :: rest) = .ok (.target name off, ';' :: rest) := by
  obtain ⟨hw, hd⟩ := word_text word_kTARGET (n := 6) rfl
    (show kTARGET ++ ' ' :: '?' :: name ++ offStr showI off ++ ';' :: rest
      = kTARGET ++ (' ' :: ('?' :: name ++ (offStr showI off ++ ';' :: rest))) by simp) splitStart_space
  -- the name ends at the `;` when there is no OFFSET clause, at the space before it otherwise
  have hpn : parseName ('?' :: name ++ (offStr showI off ++ ';' :: rest)) = (some name, trimStart (offStr showI off ++ ';' :: rest)) := by
    cases off with
    | none =>
      simp only [offStr, List.nil_append, List.cons_append, parseName]
      rw [show name ++ ';' :: rest = (name ++ [';']) ++ rest by simp, firstWord_append (word_name_semi name hn) hr,
        trimEndSemis_semi name hn.2, List.append_assoc, List.drop_left]
      rfl
    | some p =>
      apply parseName_some name _ hn
      simp only [offStr, List.cons_append, List.nil_append, List.append_assoc]
      exact splitStart_space
  unfold parseAsgCore
  simp +decide only [hw, hd, ↓reduceIte, trimStart_space]
  rw [trimStart_starts ('?' :: name) ⟨'?', name, rfl, by decide⟩, hpn]
  simp only [parseOffset_offStr showI E.parseI E.parseNat E.isDt off rest ho]

theorem closed_cons (h : Char) (r : Str) (h1 : h ≠ ';') (h2 : h ≠ ']') (h3 : h ≠ 'O') : closed (h :: r) = false := Stam.QL.closed_cons h r h1 h2 h3

/-- The value of a DATA assignment other than null is printed as a token that `get_arg` reads before the `;` and from which `Assignment::parse` makes the value again. -/
theorem aval_token (showI : Int → Str) (E : Ext) (v : AVal) (hv : AValOk showI E v) (hne : v ≠ .null) (rest : Str) :
    ∃ tok a ty, printAVal showI v = ' ' :: tok ∧ trimStart (tok ++ ';' :: rest) = tok ++ ';' :: rest ∧
      closed (tok ++ ';' :: rest) = false ∧ arg E.isDt (tok ++ ';' :: rest) = .ok (a, ';' :: rest, ty) ∧ asgValue E a ty = .ok v := by
  obtain ⟨_, _, k3, k4⟩ := kw_types E.isDt
  have word : ∀ w : Str, OpenWord w → printAVal showI v = ' ' :: w → asgValue E w (argType E.isDt w false) = .ok v →
      ∃ tok a ty, printAVal showI v = ' ' :: tok ∧ trimStart (tok ++ ';' :: rest) = tok ++ ';' :: rest ∧
        closed (tok ++ ';' :: rest) = false ∧ arg E.isDt (tok ++ ';' :: rest) = .ok (a, ';' :: rest, ty) ∧ asgValue E a ty = .ok v :=
    fun w hw hp hv => ⟨w, w, _, hp, (hw.arg E.isDt rest).1, (hw.arg E.isDt rest).2.1, (hw.arg E.isDt rest).2.2, hv⟩
  cases v with
  | null => exact absurd rfl hne
  | str s =>
    refine ⟨quote s, s, argType E.isDt s true, rfl, trimStart_quote_app _ _, closed_of_head '"' _ _ (by decide) (by decide) (by decide), ?_, ?_⟩
    · rw [arg_quoted E.isDt s _ hv.1 hv.2.1, trimStart_semi]
    · rw [quoted_nopipe_is_string E.isDt s hv.2.2]
      rfl
  | bool b =>
    cases b with
    | true =>
      refine word ['t', 'r', 'u', 'e'] ⟨by unfold Plain; decide, _, _, rfl, by decide⟩ rfl ?_
      rw [k3]
      rfl
    | false =>
      refine word ['f', 'a', 'l', 's', 'e'] ⟨by unfold Plain; decide, _, _, rfl, by decide⟩ rfl ?_
      rw [k4]
      rfl
  | int z =>
    refine word (showI z) (intLit_open _ hv.1) rfl ?_
    rw [argType_intLit E.isDt _ hv.1]
    simp [asgValue, hv.2]
  | float l =>
    refine word l ⟨hv.1, hv.2.1⟩ rfl ?_
    rw [hv.2.2.1]
    simp [asgValue, hv.2.2.2]

theorem data_core (showI : Int → Str) (E : Ext) (set key : Str) (v : AVal) (rest : Str)
    (hs : C09.Q set) (hk : C09.Q key) (hv : AValOk showI E v) :
    parseAsgCore E (kDATA ++ ' ' :: quote set ++ ' ' :: quote key ++ printAVal showI v ++ ';' :: rest)
      = .ok (.data set key v, ';' :: rest) := by
  obtain ⟨hw, hd⟩ := word_text word_kDATA (n := 4) rfl
    (show kDATA ++ ' ' :: quote set ++ ' ' :: quote key ++ printAVal showI v ++ ';' :: rest
      = kDATA ++ (' ' :: (quote set ++ (' ' :: (quote key ++ (printAVal showI v ++ ';' :: rest))))) by simp) splitStart_space
  unfold parseAsgCore
  simp +decide only [hw, hd, ↓reduceIte, trimStart_space, trimStart_quote_app]
  rw [arg_quoted E.isDt set _ hs.1 hs.2]
  simp only [trimStart_space, trimStart_quote_app]
  rw [arg_quoted E.isDt key _ hk.1 hk.2]
  by_cases hn : v = .null
  · subst hn
    simp [printAVal, trimStart_semi, closed, startsWith]
  · obtain ⟨tok, a, ty, hp, ht, hc, ha, hval⟩ := aval_token showI E v hv hn rest
    simp only [hp, List.cons_append, trimStart_space, ht, hc, ha, hval]
    rfl

/-- **C09 (assignment fixpoint).** An assignment of an ADD query that survives printing, printed by
`Assignment::to_string` and followed by the end of the text or white space, is read back by `Assignment::parse` as the
same assignment, its `;` consumed. -/
theorem asg_rt (showI : Int → Str) (E : Ext) (a : Asg) (ha : AsgOk showI E a) (rest : Str) (hr : SplitStart rest) :
    parseAsg E (printAsg showI a ++ rest) = .ok (a, trimStart rest) := by
  apply parseAsg_of_core
  cases a with
  | id s =>
    have := id_core E s rest ha
    simpa [printAsg] using this
  | data set key v =>
    have := data_core showI E set key v rest ha.1 ha.2.1 ha.2.2
    simpa [printAsg] using this
  | target name off =>
    have := target_core showI E name off rest ha.1 ha.2 hr
    simpa [printAsg] using this
  | complex k =>
    have := complex_core E k rest
    simpa [printAsg] using this

theorem printAsg_head (showI : Int → Str) (a : Asg) :
    ∃ c0 r0, printAsg showI a = c0 :: r0 ∧ isWs c0 = false ∧ c0 ≠ '{' ∧ c0 ≠ '}' := by
  cases a with
  | id s => exact ⟨'I', _, rfl, by decide, by decide, by decide⟩
  | data set key v => exact ⟨'D', _, rfl, by decide, by decide, by decide⟩
  | target name off => exact ⟨'T', _, rfl, by decide, by decide, by decide⟩
  | complex k => cases k <;> exact ⟨_, _, rfl, by decide, by decide, by decide⟩

theorem printAsg_last (showI : Int → Str) (a : Asg) : ∃ x, printAsg showI a = x ++ [';'] := by
  cases a with
  | id s => exact ⟨kID ++ ' ' :: quote s, by simp [printAsg]⟩
  | data set key v => exact ⟨kDATA ++ ' ' :: quote set ++ ' ' :: quote key ++ printAVal showI v, by simp [printAsg]⟩
  | target name off => exact ⟨kTARGET ++ ' ' :: '?' :: name ++ offStr showI off, by simp [printAsg]⟩
  | complex k => exact ⟨k.kw ++ [' '], by simp [printAsg]⟩

theorem printAsg_noTrail (showI : Int → Str) (a : Asg) : NoTrailWs (printAsg showI a) ∧ printAsg showI a ≠ [] := by
  obtain ⟨x, hx⟩ := printAsg_last showI a
  rw [hx]
  exact ⟨noTrail_semi x, by simp⟩

theorem splitStart_chain (ts : List Str) (rest : Str) (hr : SplitStart rest) : SplitStart (chain ts rest) := Stam.QL.splitStart_chain ts rest hr

theorem asgLoop_printed (showI : Int → Str) (E : Ext) :
    ∀ (l : List Asg), (∀ a ∈ l, AsgOk showI E a) →
      ∀ (rest : Str) (acc : List Asg) (f : Nat), SplitStart rest →
        (trimStart rest = [] ∨ (trimStart rest).head? = some '{') → l.length < f →
        asgLoop E f (trimStart (chain (l.map (printAsg showI)) rest)) acc = .ok (acc ++ l, trimStart rest) := by
  intro l hg rest acc f hr hstop hf
  refine loop_printed (fun q => q.isEmpty || (trimStart q).head? = some '{' || (trimStart q).head? = some '}')
    (parseAsg E) (asgLoop E) ?_ SplitStart (printAsg showI) rest hr ?_ l ?_ acc f hf
  · intro f q acc
    rw [asgLoop]
    rcases parseAsg E q with ⟨a, r⟩ | m | m <;> rfl
  · rcases hstop with h | h <;> simp [trimStart_idem, h]
  · intro a ha
    obtain ⟨c0, r0, ht, hws, hb1, hb2⟩ := printAsg_head showI a
    refine ⟨⟨c0, r0, ht, hws⟩, fun y => ?_, fun y hy => ⟨splitStart_cons (by decide), asg_rt showI E a (hg a ha) y hy⟩⟩
    simp only [ht, List.cons_append, trimStart_cons_nonws hws]
    simp [hb1, hb2]

theorem trimmed_chain_length_asg (showI : Int → Str) (l : List Asg) (x : Str) :
    l.length ≤ (trimStart (chain (l.map (printAsg showI)) x)).length := by
  refine chain_length_le (printAsg showI) l x fun a _ => ?_
  obtain ⟨c0, r0, h, hws, _⟩ := printAsg_head showI a
  exact ⟨c0, r0, h, hws⟩

theorem trimStart_block (ts : List Str) (st : Str) :
    trimStart (subsCore ts false st) = '{' :: ['\n', ' '] ++ (st ++ '\n' :: '}' :: []) := by
  simpa using trimStart_subsCore ts st []

theorem splitStart_subsCore (ts : List Str) (noSubs : Bool) (st : Str) : SplitStart (subsCore ts noSubs st) := (afterLines_block ts noSubs st).splitStart

/-- the parser on the block of sub-queries as printed, at the end of the text -/
theorem subqueries_block (showI : Int → Str) (E : Ext) (subs : List Q) (st : Str) (ts : List Str)
    (hsubs : OKQs E showI subs) (hst : coreSubs showI subs = some st) :
    subqueries E (trimStart (subsCore ts subs.isEmpty st)) = .ok (subs, []) ∧
      (trimStart (subsCore ts subs.isEmpty st) = [] ∨ (trimStart (subsCore ts subs.isEmpty st)).head? = some '{') := by
  cases subs with
  | nil => exact ⟨rfl, Or.inl rfl⟩
  | cons q r =>
    have hb := trimStart_block ts st
    simp only [List.isEmpty_cons]
    refine ⟨?_, Or.inr (by rw [hb]; rfl)⟩
    unfold subqueries
    rw [trimStart_idem, hb, if_pos (by rfl)]
    have hw := wL_le showI (q :: r) st hst
    have := subs_rt E showI (q :: r) st (by simp) hsubs hst [] (('{' :: ['\n', ' '] ++ (st ++ '\n' :: '}' :: [])).length + 1)
      '{' ['\n', ' '] [] goodRest_nil (Or.inl rfl) (by decide) (by simp only [List.length_cons, List.length_append, List.length_nil]; omega)
    rw [this]
    rfl

/-- ` WITH` and the assignments, without the last newline -/
def withCore (ts : List Str) : Str := if ts.isEmpty then [] else ' ' :: kWITH ++ chain ts []

theorem withCore_eq (ts : List Str) : withCore ts = clauseCore kWITH ts := rfl

theorem name_after (name : Option Str) (y : Str) (hn : ∀ n, name = some n → NameOk n) (hy : SplitStart y)
    (hq : name = none → (trimStart y).head? ≠ some '?') :
    parseName (trimStart (nameText name ++ y)) = (name, trimStart y) := parseName_nameText name y hn hy hq

theorem splitStart_name (name : Option Str) (y : Str) (hy : SplitStart y) : SplitStart (nameText name ++ y) := splitStart_nameText name y hy

theorem annotationWord_printed (z : Str) (hz : SplitStart z) :
    annotationWord (trimStart (' ' :: kANNOTATION ++ z)) = some (trimStart z) := by
  obtain ⟨hw, hd⟩ := word_text word_kANNOTATION (n := 10) rfl rfl hz
  rw [List.cons_append, trimStart_space, trimStart_starts kANNOTATION (y := z) ⟨'A', _, rfl, by decide⟩]
  unfold annotationWord
  rw [hw, if_pos (Or.inl rfl), hd]

/-- what follows the name: the WITH clause, if any, is entered, and the loop over the assignments starts where it should -/
theorem afterName (ts : List Str) (noSubs : Bool) (st : Str) :
    let X := subsCore ts noSubs st
    let y := withCore ts ++ X
    SplitStart y ∧ (trimStart y).head? ≠ some '?' ∧
      (if firstWord (trimStart y) = kWITH then some (trimStart ((trimStart y).drop 4))
       else if firstWord (trimStart y) = ['{'] ∨ firstWord (trimStart y) = [] then some (trimStart y) else none)
        = some (trimStart (chain ts X)) := by
  intro X y
  obtain ⟨h1, h2, h3, h4⟩ := after_name kWITH ⟨'W', _, rfl, by decide⟩ (by decide) ts X (afterLines_block ts noSubs st)
  refine ⟨h1, h2, ?_⟩
  by_cases hts : ts = []
  · subst hts
    rw [show y = withCore [] ++ X from rfl, withCore_eq, h3 rfl]
    cases noSubs with
    | true => rfl
    | false =>
      rw [show firstWord (trimStart X) = ['{'] by simpa using firstWord_block [] st [], if_neg (by decide), if_pos (Or.inl rfl)]
      rfl
  · obtain ⟨hw, hd⟩ := word_text word_kWITH (n := 4) rfl rfl (splitStart_chain ts X (afterLines_block ts noSubs st).splitStart)
    rw [show y = withCore ts ++ X from rfl, withCore_eq, h4 hts, hw, if_pos rfl, hd]

/-- the parser on the text of an ADD query without the white space at its end -/
theorem add_core_rt (showI : Int → Str) (E : Ext) (name : Option Str) (asgs : List Asg) (subs : List Q) (st : Str)
    (hname : ∀ n, name = some n → NameOk n) (hasgs : ∀ a ∈ asgs, AsgOk showI E a)
    (hsubs : OKQs E showI subs) (hst : coreSubs showI subs = some st) :
    parseAdd E (kADD ++ ' ' :: kANNOTATION ++ (nameText name ++
        (withCore (asgs.map (printAsg showI)) ++ subsCore (asgs.map (printAsg showI)) subs.isEmpty st)))
      = .ok (.add name asgs subs, []) := by
  obtain ⟨hy1, hy2, hy3⟩ := afterName (asgs.map (printAsg showI)) subs.isEmpty st
  obtain ⟨hb1, hb2⟩ := subqueries_block showI E subs st (asgs.map (printAsg showI)) hsubs hst
  unfold parseAdd
  have hd : (kADD ++ ' ' :: kANNOTATION ++ (nameText name ++
        (withCore (asgs.map (printAsg showI)) ++ subsCore (asgs.map (printAsg showI)) subs.isEmpty st))).drop 3
      = ' ' :: kANNOTATION ++ (nameText name ++
        (withCore (asgs.map (printAsg showI)) ++ subsCore (asgs.map (printAsg showI)) subs.isEmpty st)) := by simp [kADD]
  rw [hd, annotationWord_printed _ (splitStart_name name _ hy1)]
  simp only []
  rw [name_after name _ hname hy1 (fun _ => hy2)]
  simp only [hy3]
  have hloop := asgLoop_printed showI E asgs hasgs (subsCore (asgs.map (printAsg showI)) subs.isEmpty st) []
    ((trimStart (chain (asgs.map (printAsg showI)) (subsCore (asgs.map (printAsg showI)) subs.isEmpty st))).length + 1)
    (splitStart_subsCore _ _ _) hb2 (by have := trimmed_chain_length_asg showI asgs (subsCore (asgs.map (printAsg showI)) subs.isEmpty st); omega)
  rw [hloop]
  simp only [List.nil_append, hb1]

/-- the parser on the text of a DELETE query without the white space at its end -/
theorem delete_core_rt (showI : Int → Str) (E : Ext) (name : Option Str) (subs : List Q) (st : Str)
    (hname : ∀ n, name = some n → NameOk n) (hsubs : OKQs E showI subs) (hst : coreSubs showI subs = some st) :
    parseDelete E (kDELETE ++ ' ' :: kANNOTATION ++ (nameText name ++ subsCore [] subs.isEmpty st))
      = .ok (.delete name subs, []) := by
  obtain ⟨hy1, hy2, _⟩ := afterName [] subs.isEmpty st
  simp only [withCore_eq, clauseCore_nil, List.nil_append] at hy1 hy2
  obtain ⟨hb1, _⟩ := subqueries_block showI E subs st [] hsubs hst
  unfold parseDelete
  have hd : (kDELETE ++ ' ' :: kANNOTATION ++ (nameText name ++ subsCore [] subs.isEmpty st)).drop 6
      = ' ' :: kANNOTATION ++ (nameText name ++ subsCore [] subs.isEmpty st) := by simp [kDELETE]
  rw [hd, annotationWord_printed _ (splitStart_name name _ hy1)]
  simp only []
  rw [name_after name _ hname hy1 (fun _ => hy2)]
  simp only [hb1]

/-- the white space `to_string` leaves at the end of a mutating query: the newline after the last assignment when no block follows -/
def tailM (ts : List Str) (subs : List Q) : Str := if !ts.isEmpty && subs.isEmpty then ['\n'] else []

theorem tailM_ws (ts : List Str) (subs : List Q) : ∀ x ∈ tailM ts subs, isWs x = true := by
  intro x hx
  unfold tailM at hx
  split at hx
  · simp at hx; subst hx; decide
  · simp at hx

theorem with_lines (showI : Int → Str) (asgs : List Asg) :
    (if asgs.isEmpty then [] else ' ' :: kWITH ++ '\n' :: asgLines showI asgs)
      = withCore (asgs.map (printAsg showI)) ++ (if (asgs.map (printAsg showI)).isEmpty then [] else ['\n']) := by
  have := clause_lines kWITH (asgs.map (printAsg showI))
  simpa [asgLines, List.map_map, Function.comp_def, withCore_eq] using this

/-- `to_string` on a mutating query writes the core text and then its trailing white space -/
theorem withSubs_core (showI : Int → Str) (E : Ext) (h : Str) (ts : List Str) (subs : List Q) (t : Str)
    (hsubs : OKQs E showI subs) (hh : NoTrailWs h) (hhne : h ≠ []) (hts : ∀ t ∈ ts, NoTrailWs t ∧ t ≠ [])
    (hp : withSubs showI (h ++ (withCore ts ++ (if ts.isEmpty then [] else ['\n']))) subs = some t) :
    ∃ st, coreSubs showI subs = some st ∧
      t = (h ++ (withCore ts ++ subsCore ts subs.isEmpty st)) ++ tailM ts subs ∧
      NoTrailWs (h ++ (withCore ts ++ subsCore ts subs.isEmpty st)) := by
  exact withSubs_clause showI h kWITH ts subs t hh hts
    (fun x hne hx => by simpa using printSubs_core E showI subs true x hne hsubs hx) hp

theorem noTrail_mhead (kw : Str) (hk : NoTrailWs kANNOTATION) (name : Option Str) (hn : ∀ n, name = some n → NameOk n) :
    NoTrailWs (kw ++ ' ' :: kANNOTATION ++ nameText name) ∧ kw ++ ' ' :: kANNOTATION ++ nameText name ≠ [] := by
  refine ⟨noTrail_nameText _ name (noTrail_suffix kw (' ' :: kANNOTATION) (by simp) (noTrail_suffix [' '] kANNOTATION (by decide) hk)) hn,
    by simp [kANNOTATION]⟩

theorem noTrail_kANNOTATION : NoTrailWs kANNOTATION := noTrail_of_all (by decide)

theorem parseQueryAll_of_parseQuery (E : Ext) (t : Str) (q : Q) (r : Str) (h : parseQuery E t = .ok (q, r)) :
    parseQueryAll E t = .ok (.select q, r) := by
  unfold parseQuery at h
  unfold parseQueryAll
  simp only at h ⊢
  split at h
  · simp at h
  · rename_i ha
    split at h
    · rename_i hw
      rw [if_neg ha, if_pos hw, h]
    · split at h <;> simp at h

theorem trim_core (c0 : Char) (c w : Str) (h0 : isWs c0 = false) (hc : NoTrailWs (c0 :: c)) (hw : ∀ x ∈ w, isWs x = true) :
    trim (c0 :: c ++ w) = c0 :: c := trim_append_ws (c0 :: c) w ⟨_, _, rfl, h0⟩ hc hw

/-- A printed ADD or DELETE query as `Query::parse` sees it after `trim`: without the white space at its end, its first word the query keyword. -/
theorem mut_printed (showI : Int → Str) (E : Ext) (kw : Str) (hk : Starts kw) (hw : Word kw) (name : Option Str) (ts : List Str)
    (subs : List Q) (t : Str) (hname : ∀ n, name = some n → NameOk n) (hsubs : OKQs E showI subs) (hts : ∀ t ∈ ts, NoTrailWs t ∧ t ≠ [])
    (hp : withSubs showI (kw ++ ' ' :: kANNOTATION ++ nameText name ++ (withCore ts ++ (if ts.isEmpty then [] else ['\n']))) subs = some t) :
    ∃ st, coreSubs showI subs = some st ∧
      trim t = kw ++ ' ' :: kANNOTATION ++ (nameText name ++ (withCore ts ++ subsCore ts subs.isEmpty st)) ∧
      firstWord (kw ++ ' ' :: kANNOTATION ++ (nameText name ++ (withCore ts ++ subsCore ts subs.isEmpty st))) = kw := by
  obtain ⟨hh, hhne⟩ := noTrail_mhead kw noTrail_kANNOTATION name hname
  obtain ⟨st, hst, rfl, hnt⟩ := withSubs_core showI E _ ts subs t hsubs hh hhne hts hp
  have := trim_query_text kw (' ' :: kANNOTATION ++ (nameText name ++ (withCore ts ++ subsCore ts subs.isEmpty st))) (tailM ts subs)
    hk hw splitStart_space (by simpa only [List.append_assoc] using hnt) (tailM_ws ts subs)
  exact ⟨st, hst, by simpa only [List.append_assoc] using this⟩

theorem add_roundtrip (showI : Int → Str) (E : Ext) (name : Option Str) (asgs : List Asg) (subs : List Q) (t : Str)
    (hname : ∀ n, name = some n → NameOk n) (hasgs : ∀ a ∈ asgs, AsgOk showI E a) (hsubs : OKQs E showI subs)
    (hp : printQQ showI (.add name asgs subs) = some t) :
    parseQueryAll E t = .ok (.add name asgs subs, []) := by
  simp only [printQQ] at hp
  rw [with_lines showI asgs] at hp
  have hts : ∀ t ∈ asgs.map (printAsg showI), NoTrailWs t ∧ t ≠ [] :=
    List.forall_mem_map.2 fun a _ => printAsg_noTrail showI a
  obtain ⟨st, hst, htrim, hw⟩ := mut_printed showI E kADD ⟨'A', _, rfl, by decide⟩ word_kADD name _ subs t hname hsubs hts hp
  unfold parseQueryAll
  simp only [htrim]
  rw [if_neg (by simp [kADD]), hw, if_neg (by decide), if_pos rfl]
  exact add_core_rt showI E name asgs subs st hname hasgs hsubs hst

theorem delete_roundtrip (showI : Int → Str) (E : Ext) (name : Option Str) (subs : List Q) (t : Str)
    (hname : ∀ n, name = some n → NameOk n) (hsubs : OKQs E showI subs)
    (hp : printQQ showI (.delete name subs) = some t) :
    parseQueryAll E t = .ok (.delete name subs, []) := by
  simp only [printQQ] at hp
  obtain ⟨st, hst, htrim, hw⟩ := mut_printed showI E kDELETE ⟨'D', _, rfl, by decide⟩ word_kDELETE name [] subs t hname hsubs (by simp)
    (by simpa [withCore_eq, clauseCore_nil] using hp)
  unfold parseQueryAll
  simp only [htrim]
  rw [if_neg (by simp [kDELETE]), hw, if_neg (by decide), if_neg (by decide), if_pos rfl]
  exact delete_core_rt showI E name subs st hname hsubs hst

/-- which queries, of the three types, survive printing: names that can be written (no white space, not ending in `;`),
printable constraints at every level (`QPrintableAll`), assignments that survive printing (`AsgOk`) -/
def QQPrintable (showI : Int → Str) (parseI : Str → Option Int) (parseF : Str → Bool) (isDt : Str → Bool) (regexOk : Str → Bool)
    (parseNat : Str → Option Nat) : QQ → Prop
  | .select q => QPrintableAll showI parseI parseF isDt regexOk parseNat q
  | .add name asgs subs => (∀ n, name = some n → NameOk n) ∧
      (∀ a ∈ asgs, AsgOk showI (fullExt parseI parseF isDt regexOk parseNat) a) ∧
      QsPrintableAll showI parseI parseF isDt regexOk parseNat subs
  | .delete name subs => (∀ n, name = some n → NameOk n) ∧ QsPrintableAll showI parseI parseF isDt regexOk parseNat subs

/-- **C09 (query fixpoint, all three query types).** A SELECT, ADD or DELETE query that survives printing — writable
names, printable constraints at every level of its sub-queries, and for ADD any number of assignments ID, DATA (null,
boolean, integer, float, string), TARGET with or without an OFFSET clause, COMPOSITE, MULTI, DIRECTIONAL — printed by
`to_string`, is parsed back by `Query::parse` as the same query, and the whole text is consumed; for any parsers of
numbers and dates and any regular-expression compiler. -/
theorem query_roundtrip_three (showI : Int → Str) (parseI : Str → Option Int) (parseF : Str → Bool) (isDt : Str → Bool) (regexOk : Str → Bool)
    (parseNat : Str → Option Nat)
    (qq : QQ) (t : Str) (hq : QQPrintable showI parseI parseF isDt regexOk parseNat qq) (hp : printQQ showI qq = some t) :
    parseQueryAll (fullExt parseI parseF isDt regexOk parseNat) t = .ok (qq, []) := by
  cases qq with
  | select q =>
    exact parseQueryAll_of_parseQuery _ t q [] (query_roundtrip_all showI parseI parseF isDt regexOk parseNat q t hq hp)
  | add name asgs subs =>
    exact add_roundtrip showI _ name asgs subs t hq.1 hq.2.1 (okqs_all showI parseI parseF isDt regexOk parseNat subs hq.2.2) hp
  | delete name subs =>
    exact delete_roundtrip showI _ name subs t hq.1 (okqs_all showI parseI parseF isDt regexOk parseNat subs hq.2) hp

/-! ### non-vacuity and sharpness -/

/-- an ADD query with every kind of assignment, around a sub-query with a constraint -/
def sampleAdd : QQ :=
  .add (some ['n']) [.id ['i'], .data ['s'] ['k'] (.int (-2)), .data ['s'] ['k'] .null, .data ['s'] ['k'] (.str ['v', ' ', 'w']),
      .data ['s'] ['k'] (.bool true), .target ['x'] (some (.b 3, .e (-2))), .target ['y'] none, .complex .multi]
    [.mk false .text (some ['x']) [.id ['a']] []]

def sampleDelete : QQ := .delete (some ['n']) [.mk false .annotation (some ['n']) [.id ['a']] []]

example : QQPrintable showEx parseIEx (fun _ => false) (fun _ => false) (fun _ => true) parseNatEx sampleAdd := by
  unfold sampleAdd QQPrintable QsPrintableAll QPrintableAll QsPrintableAll
  refine ⟨nameOk_some ?_, ?_, ⟨nameOk_some ?_, ?_, trivial⟩, trivial⟩
  · unfold NameOk
    decide
  · simp only [List.forall_mem_cons, List.not_mem_nil, false_imp_iff, implies_true, and_true, AsgOk, AValOk, C09.Q, NameOk,
      Option.some.injEq, Prod.mk.injEq, reduceCtorEq]
    refine ⟨by decide, ⟨by decide, by decide, ⟨['2'], by decide, by decide, Or.inr rfl⟩, rfl⟩, by decide, by decide, by decide,
      ⟨by decide, ?_⟩, by decide⟩
    rintro b e ⟨rfl, rfl⟩
    exact ⟨cursorOk_ex _ (by simp), cursorOk_ex _ (by simp)⟩
  · unfold NameOk
    decide
  · simp only [List.forall_mem_cons, List.not_mem_nil, false_imp_iff, implies_true, and_true, CnPrintableAll, CnPrintable, C09.Q]
    decide

example : (printQQ showEx sampleAdd).isSome = true := by decide

example : QQPrintable showEx parseIEx (fun _ => false) (fun _ => false) (fun _ => true) parseNatEx sampleDelete := by
  unfold sampleDelete QQPrintable QsPrintableAll QPrintableAll QsPrintableAll
  refine ⟨nameOk_some ?_, ⟨nameOk_some ?_, ?_, trivial⟩, trivial⟩
  · unfold NameOk
    decide
  · unfold NameOk
    decide
  · simp only [List.forall_mem_cons, List.not_mem_nil, false_imp_iff, implies_true, and_true, CnPrintableAll, CnPrintable, C09.Q]
    decide

/-- the hypothesis on string values is needed: a string with a list separator is printed between quotes as it is, and
the lexer types the quoted argument as a list, which an assignment refuses: the printed query does not parse -/
theorem string_value_with_pipe_is_refused :
    (match printQQ showEx (.add none [.data ['s'] ['k'] (.str ['a', '|', 'b'])] []) with
     | some t =>
       (match parseQueryAll (fullExt parseIEx (fun _ => false) (fun _ => false) (fun _ => true) parseNatEx) t with
        | .err _ => true
        | _ => false)
     | none => false) = true := by decide +kernel

end Stam.QL.C09M
