import StamModel.Lemmas.StamqlC
import StamModel.Props.C09
/-
  C09 — printing a constraint and parsing it again gives the same constraint (the constraint layer).

  Proved here, about `StamModel/StamqlC.lean` (`Constraint::parse` / `Constraint::to_string` for ID, DATASET, SUBSTORE,
  TEXT and DATA, with qualifiers) on top of the lexical layer (Props/C09.lean):
   * `constraint_roundtrip` — for every constraint of these kinds whose identifiers can be written between quotes
     (no quote, no backslash) and do not spell something the grammar reads differently (`CnPrintable`: the
     identifier of DATASET/DATA is not `AS` or `RECURSIVE`, identifiers that the parser reads as variables, `NONE`
     and the empty identifier after SUBSTORE — exactly the known findings of C09), followed by any further text that
     does not end in white space, `parseCn (printCn c ++ rest) = (c, rest without leading white space)`: same
     constraint, and the parser stops exactly where the printed text ends;
   * the hypotheses are sharp: `dataset_AS_is_misread`, `text_variable_is_misread` show constraints outside
     `CnPrintable` whose printed form parses to something else or not at all.
-/
namespace Stam.QL.C09
open Stam.QL

/-- quotable: can stand between quotes -/
def Q (s : Str) : Prop := '"' ∉ s ∧ '\\' ∉ s

/-- an unquoted value token: not empty, no quote, no delimiter, no white space -/
def PlainW (v : Str) : Prop := v ≠ [] ∧ ∀ c ∈ v, c ≠ '"' ∧ isDelim c = false ∧ isWs c = false

def CnPrintable (showI : Int → Str) (parseI : Str → Option Int) (parseF : Str → Bool) (isDt : Str → Bool) (regexOk : Str → Bool) : Cn → Prop
  | .id s => Q s
  | .dataset s _ => Q s ∧ s ≠ kAS ∧ s ≠ kRECURSIVE ∧ isVar s = false
  | .substore (some s) => Q s ∧ isVar s = false ∧ s ≠ kNONE ∧ s ≠ []
  | .substore none => True
  | .text s nocase => Q s ∧ isVar s = false ∧ (nocase = false → s ≠ kAS)
  | .regex s => Q s ∧ isVar s = false ∧ regexOk s = true
  | .dataKey set key _ => Q set ∧ Q key ∧ set ≠ kAS ∧ set ≠ kRECURSIVE ∧ startsWith set ['?'] = false
  | .keyValue set key o _ => Q set ∧ Q key ∧ set ≠ kAS ∧ set ≠ kRECURSIVE ∧ startsWith set ['?'] = false ∧
      Printable showI parseI parseF isDt o ∧ (∀ op v, printOp showI o = some (op, v, false) → PlainW v)
  | _ => False

theorem nows_semicolon : isWs ';' = false := by decide
theorem nows_quote : isWs '"' = false := by decide

theorem plainW_plain {v : Str} (h : PlainW v) : Plain v := fun c hc => ⟨(h.2 c hc).1, (h.2 c hc).2.1⟩

/-- an unquoted value token begins with a character that is not white space -/
theorem plainW_starts {v : Str} (h : PlainW v) : Starts v := by
  obtain ⟨c, cs, rfl⟩ := List.exists_cons_of_ne_nil h.1
  exact ⟨c, cs, rfl, (h.2 c (by simp)).2.2⟩

theorem trim_printed (a rest : Str) (c0 : Char) (h0 : isWs c0 = false) (hr : NoTrailWs rest) :
    trim (c0 :: a ++ ';' :: rest) = c0 :: a ++ ';' :: rest :=
  trim_id c0 _ h0 (noTrail_append_cons (c0 :: a) rest ';' nows_semicolon hr)

theorem finish_semicolon (c : Cn) (rest : Str) : finish c (';' :: rest) = .ok (c, trimStart rest) := rfl

theorem trimStart_quote (s : Str) : trimStart (quote s) = quote s :=
  trimStart_cons_nonws nows_quote

theorem trimStart_quote_app (s t : Str) : trimStart (quote s ++ t) = quote s ++ t :=
  trimStart_cons_nonws nows_quote

theorem trimStart_semi (t : Str) : trimStart (';' :: t) = ';' :: t := trimStart_cons_nonws nows_semicolon

theorem plain_kAS : Plain kAS := plain_keywords _ (by decide)
theorem plain_kMETADATA : Plain kMETADATA := plain_keywords _ (by decide)
theorem plain_kNOCASE : Plain kNOCASE := plain_keywords _ (by decide)
theorem plain_kREGEX : Plain kREGEX := plain_keywords _ (by decide)
theorem plain_kNONE : Plain kNONE := plain_keywords _ (by decide)

theorem id_roundtrip (parseI : Str → Option Int) (parseF : Str → Bool) (isDt : Str → Bool) (regexOk : Str → Bool)
    (s rest : Str) (hs : Q s) (hr : NoTrailWs rest) :
    parseCn parseI parseF isDt regexOk (kID ++ [' '] ++ quote s ++ ';' :: rest) = .ok (.id s, trimStart rest) := by
  refine keyword_text (kw := kID) (n := 2) (Z := ' ' :: (quote s ++ ';' :: rest))
    (by decide) rfl (by simp) splitStart_space hr fun t ht hat hw hd => ?_
  unfold parseCn
  -- `+decide` compares the keywords, which stay folded
  simp +decide only [ht, hw, hd, if_neg hat, ↓reduceIte]
  rw [trimStart_space, trimStart_quote_app, arg_quoted isDt s _ hs.1 hs.2]
  rfl

/-- after the keyword: the optional ` AS METADATA`, then the quoted identifier — what `get_arg` + `parse_qualifiers` make of it -/
theorem qual_prefix (isDt : Str → Bool) (q : Qual) (s tail : Str) (hs : Q s) (h1 : s ≠ kAS) (h2 : s ≠ kRECURSIVE) :
    ∃ a r ty, arg isDt (trimStart (qualStr q ++ ' ' :: (quote s ++ tail))) = .ok (a, r, ty) ∧
      parseQualifiers isDt a r = .ok (s, trimStart tail, q, false) := by
  simpa only [Bool.false_eq_true, ↓reduceIte, List.append_nil] using
    qualifiers_printed isDt q false (quote s ++ tail) s (trimStart tail)
      (by rw [trimStart_quote_app]; exact arg_quoted isDt s tail hs.1 hs.2) h1 h2

theorem dataset_roundtrip (parseI : Str → Option Int) (parseF : Str → Bool) (isDt : Str → Bool) (regexOk : Str → Bool)
    (s rest : Str) (q : Qual) (hs : Q s) (h1 : s ≠ kAS) (h2 : s ≠ kRECURSIVE) (h3 : isVar s = false) (hr : NoTrailWs rest) :
    parseCn parseI parseF isDt regexOk (kDATASET ++ qualStr q ++ [' '] ++ quote s ++ ';' :: rest) = .ok (.dataset s q, trimStart rest) := by
  obtain ⟨a, r, ty, ha, hq⟩ := qual_prefix isDt q s (';' :: rest) hs h1 h2
  refine keyword_text (kw := kDATASET) (n := 7) (Z := qualStr q ++ ' ' :: (quote s ++ ';' :: rest))
    (by decide) rfl (by simp) (splitStart_qualStr q _) hr fun t ht hat hw hd => ?_
  unfold parseCn
  simp +decide only [ht, hw, hd, if_neg hat, ↓reduceIte]
  rw [ha]
  simp only [hq, h3]
  rfl

theorem dataKey_roundtrip (parseI : Str → Option Int) (parseF : Str → Bool) (isDt : Str → Bool) (regexOk : Str → Bool)
    (set key rest : Str) (q : Qual) (hs : Q set) (hk : Q key) (h1 : set ≠ kAS) (h2 : set ≠ kRECURSIVE)
    (h3 : startsWith set ['?'] = false) (hr : NoTrailWs rest) :
    parseCn parseI parseF isDt regexOk (kDATA ++ qualStr q ++ [' '] ++ quote set ++ [' '] ++ quote key ++ ';' :: rest)
      = .ok (.dataKey set key q, trimStart rest) := by
  obtain ⟨a, r, ty, hA, hP⟩ := qual_prefix isDt q set (' ' :: (quote key ++ ';' :: rest)) hs h1 h2
  have hkq := arg_quoted isDt key (';' :: rest) hk.1 hk.2
  refine keyword_text (kw := kDATA) (n := 4) (Z := qualStr q ++ ' ' :: (quote set ++ ' ' :: (quote key ++ ';' :: rest)))
    (by decide) rfl (by simp) (splitStart_qualStr q _) hr fun t ht hat hw hd => ?_
  unfold parseCn
  simp +decide only [ht, hw, hd, if_neg hat, ↓reduceIte]
  rw [hA]
  simp only [hP, h3, Bool.false_eq_true, ↓reduceIte, trimStart_space, trimStart_quote_app, hkq, trimStart_semi]
  rfl

def IsTok (op : Str) : Prop :=
  op = ['='] ∨ op = ['!', '='] ∨ op = ['>'] ∨ op = ['>', '='] ∨ op = ['<'] ∨ op = ['<', '=']

theorem printOp_tok (showI : Int → Str) (o : Op) (op v : Str) (qd : Bool) (h : printOp showI o = some (op, v, qd)) : IsTok op := by
  cases o with
  | not o' =>
    cases o' <;> cases h <;> (unfold IsTok; decide)
  | _ =>
    cases h <;> (unfold IsTok; decide)

theorem tok_facts (op : Str) (h : IsTok op) (x : Str) :
    Plain op ∧ trimStart (op ++ x) = op ++ x ∧ closed (op ++ x) = false := by
  rcases h with rfl | rfl | rfl | rfl | rfl | rfl <;>
    exact ⟨by unfold Plain; decide, trimStart_starts _ (y := x) ⟨_, _, rfl, by decide⟩, rfl⟩

theorem keyValue_core (parseI : Str → Option Int) (parseF : Str → Bool) (isDt : Str → Bool) (regexOk : Str → Bool)
    (set key rest : Str) (q : Qual) (o : Op) (op v V : Str) (ty : ArgType)
    (hs : Q set) (hk : Q key) (h1 : set ≠ kAS) (h2 : set ≠ kRECURSIVE) (h3 : startsWith set ['?'] = false)
    (htok : IsTok op) (hpo : parseOp parseI parseF isDt op v ty = .ok o)
    (hval : arg isDt (trimStart (V ++ ';' :: rest)) = .ok (v, ';' :: rest, ty)) (hr : NoTrailWs rest) :
    parseCn parseI parseF isDt regexOk
      (kDATA ++ qualStr q ++ [' '] ++ quote set ++ [' '] ++ quote key ++ [' '] ++ (op ++ [' '] ++ V) ++ ';' :: rest)
      = .ok (.keyValue set key o q, trimStart rest) := by
  obtain ⟨hplain, htrim, hclosed⟩ := tok_facts op htok (' ' :: (V ++ ';' :: rest))
  obtain ⟨a, r, ty', hA, hP⟩ := qual_prefix isDt q set (' ' :: (quote key ++ ' ' :: (op ++ ' ' :: (V ++ ';' :: rest)))) hs h1 h2
  have hkq := arg_quoted isDt key (' ' :: (op ++ ' ' :: (V ++ ';' :: rest))) hk.1 hk.2
  have hop := arg_word isDt op ' ' (V ++ ';' :: rest) (by decide) hplain
  refine keyword_text (kw := kDATA) (n := 4) (Z := qualStr q ++ ' ' :: (quote set ++ ' ' :: (quote key ++ ' ' :: (op ++ ' ' :: (V ++ ';' :: rest)))))
    (by decide) rfl (by simp) (splitStart_qualStr q _) hr fun t ht hat hw hd => ?_
  unfold parseCn
  simp +decide only [ht, hw, hd, if_neg hat, ↓reduceIte]
  rw [hA]
  simp only [hP, h3, Bool.false_eq_true, ↓reduceIte, trimStart_space, trimStart_quote_app, hkq, htrim, hclosed]
  simp only [opValue, hop, trimStart_space, hval, hpo, finish_semicolon]

/-- `get_arg` reads back the printed value of an operator, quoted or bare -/
theorem arg_printed_value (isDt : Str → Bool) (v rest : Str) (qd : Bool) (hv : if qd then Q v else PlainW v) :
    arg isDt (trimStart ((if qd then quote v else v) ++ ';' :: rest)) = .ok (v, ';' :: rest, argType isDt v qd) := by
  cases qd with
  | true =>
    simp only [↓reduceIte] at hv ⊢
    rw [trimStart_quote_app, arg_quoted isDt v (';' :: rest) hv.1 hv.2, trimStart_semi]
  | false =>
    simp only [Bool.false_eq_true, ↓reduceIte] at hv ⊢
    rw [trimStart_starts _ (plainW_starts hv), arg_word isDt v ';' rest (by decide) (plainW_plain hv), trimStart_semi]

theorem keyValue_roundtrip (showI : Int → Str) (parseI : Str → Option Int) (parseF : Str → Bool) (isDt : Str → Bool) (regexOk : Str → Bool)
    (set key rest : Str) (q : Qual) (o : Op) (op v : Str) (qd : Bool)
    (hs : Q set) (hk : Q key) (h1 : set ≠ kAS) (h2 : set ≠ kRECURSIVE) (h3 : startsWith set ['?'] = false)
    (hpr : printOp showI o = some (op, v, qd)) (hpo : parseOp parseI parseF isDt op v (argType isDt v qd) = .ok o)
    (hv : if qd then Q v else PlainW v) (hr : NoTrailWs rest) :
    parseCn parseI parseF isDt regexOk
      (kDATA ++ qualStr q ++ [' '] ++ quote set ++ [' '] ++ quote key ++ [' '] ++ (op ++ [' '] ++ (if qd then quote v else v)) ++ ';' :: rest)
      = .ok (.keyValue set key o q, trimStart rest) :=
  keyValue_core parseI parseF isDt regexOk set key rest q o op v _ _ hs hk h1 h2 h3 (printOp_tok showI o op v qd hpr) hpo
    (arg_printed_value isDt v rest qd hv) hr

theorem substore_some_roundtrip (parseI : Str → Option Int) (parseF : Str → Bool) (isDt : Str → Bool) (regexOk : Str → Bool)
    (s rest : Str) (hs : Q s) (h1 : isVar s = false) (h2 : s ≠ kNONE) (h3 : s ≠ []) (hr : NoTrailWs rest) :
    parseCn parseI parseF isDt regexOk (kSUBSTORE ++ [' '] ++ quote s ++ ';' :: rest) = .ok (.substore (some s), trimStart rest) := by
  refine keyword_text (kw := kSUBSTORE) (n := 8) (Z := ' ' :: (quote s ++ ';' :: rest))
    (by decide) rfl (by simp) splitStart_space hr fun t ht hat hw hd => ?_
  unfold parseCn
  simp +decide only [ht, hw, hd, if_neg hat, ↓reduceIte]
  rw [trimStart_space, trimStart_quote_app, arg_quoted isDt s _ hs.1 hs.2]
  simp only [h1, Bool.false_eq_true, ↓reduceIte]
  rw [if_neg (not_or.mpr ⟨h2, by simpa using h3⟩)]
  rfl

theorem substore_none_roundtrip (parseI : Str → Option Int) (parseF : Str → Bool) (isDt : Str → Bool) (regexOk : Str → Bool)
    (rest : Str) (hr : NoTrailWs rest) :
    parseCn parseI parseF isDt regexOk (kSUBSTORE ++ [' '] ++ kNONE ++ ';' :: rest) = .ok (.substore none, trimStart rest) := by
  refine keyword_text (kw := kSUBSTORE) (n := 8) (Z := ' ' :: (kNONE ++ ';' :: rest))
    (by decide) rfl (by simp) splitStart_space hr fun t ht hat hw hd => ?_
  unfold parseCn
  simp +decide only [ht, hw, hd, if_neg hat, ↓reduceIte]
  rw [trimStart_space, trimStart_starts kNONE ⟨_, _, rfl, by decide⟩, arg_word isDt kNONE ';' rest (by decide) plain_kNONE]
  simp +decide only [↓reduceIte, trimStart_semi]
  rfl

theorem text_roundtrip (parseI : Str → Option Int) (parseF : Str → Bool) (isDt : Str → Bool) (regexOk : Str → Bool)
    (s rest : Str) (hs : Q s) (h1 : isVar s = false) (h2 : s ≠ kAS) (hr : NoTrailWs rest) :
    parseCn parseI parseF isDt regexOk (kTEXT ++ [' '] ++ quote s ++ ';' :: rest) = .ok (.text s false, trimStart rest) := by
  refine keyword_text (kw := kTEXT) (n := 4) (Z := ' ' :: (quote s ++ ';' :: rest))
    (by decide) rfl (by simp) splitStart_space hr fun t ht hat hw hd => ?_
  unfold parseCn
  simp +decide only [ht, hw, hd, if_neg hat, ↓reduceIte]
  rw [trimStart_space, trimStart_quote_app, arg_quoted isDt s _ hs.1 hs.2]
  simp only [parseTextQualifiers, if_neg h2, h1, Bool.false_eq_true, ↓reduceIte, trimStart_semi]
  rfl

/-- `TEXT AS <NOCASE|REGEX> "s";` -/
theorem text_as_prefix (isDt : Str → Bool) (kw : Str) (hk : Plain kw) (c0 : Char) (kt : Str) (hkw : kw = c0 :: kt) (h0 : isWs c0 = false)
    (s tail : Str) (hs : Q s) :
    ∃ r ty, arg isDt (kAS ++ ' ' :: (kw ++ ' ' :: (quote s ++ tail))) = .ok (kAS, r, ty) ∧
      arg isDt r = .ok (kw, quote s ++ tail, argType isDt kw false) ∧
      arg isDt (quote s ++ tail) = .ok (s, trimStart tail, argType isDt s true) := by
  have hA := arg_keyword isDt plain_kAS ⟨_, _, rfl, by decide⟩ (kw ++ ' ' :: (quote s ++ tail))
  rw [trimStart_starts kAS ⟨_, _, rfl, by decide⟩] at hA
  have hK := arg_keyword isDt hk ⟨c0, kt, hkw, h0⟩ (quote s ++ tail)
  rw [trimStart_quote_app] at hK
  exact ⟨_, _, hA, hK, arg_quoted isDt s tail hs.1 hs.2⟩

theorem text_nocase_roundtrip (parseI : Str → Option Int) (parseF : Str → Bool) (isDt : Str → Bool) (regexOk : Str → Bool)
    (s rest : Str) (hs : Q s) (h1 : isVar s = false) (hr : NoTrailWs rest) :
    parseCn parseI parseF isDt regexOk (kTEXT ++ [' ', 'A', 'S', ' '] ++ kNOCASE ++ [' '] ++ quote s ++ ';' :: rest) = .ok (.text s true, trimStart rest) := by
  obtain ⟨r, ty, hA, hK, hS⟩ := text_as_prefix isDt kNOCASE plain_kNOCASE _ _ rfl (by decide) s (';' :: rest) hs
  refine keyword_text (kw := kTEXT) (n := 4) (Z := ' ' :: (kAS ++ ' ' :: (kNOCASE ++ ' ' :: (quote s ++ ';' :: rest))))
    (by decide) rfl (by simp [kAS]) splitStart_space hr fun t ht hat hw hd => ?_
  unfold parseCn
  simp +decide only [ht, hw, hd, if_neg hat, ↓reduceIte]
  rw [trimStart_space, trimStart_starts kAS ⟨_, _, rfl, by decide⟩, hA]
  simp +decide only [parseTextQualifiers, ↓reduceIte, hK, hS, h1, trimStart_semi]
  rfl

theorem regex_roundtrip (parseI : Str → Option Int) (parseF : Str → Bool) (isDt : Str → Bool) (regexOk : Str → Bool)
    (s rest : Str) (hs : Q s) (h1 : isVar s = false) (h2 : regexOk s = true) (hr : NoTrailWs rest) :
    parseCn parseI parseF isDt regexOk (kTEXT ++ [' ', 'A', 'S', ' '] ++ kREGEX ++ [' '] ++ quote s ++ ';' :: rest) = .ok (.regex s, trimStart rest) := by
  obtain ⟨r, ty, hA, hK, hS⟩ := text_as_prefix isDt kREGEX plain_kREGEX _ _ rfl (by decide) s (';' :: rest) hs
  refine keyword_text (kw := kTEXT) (n := 4) (Z := ' ' :: (kAS ++ ' ' :: (kREGEX ++ ' ' :: (quote s ++ ';' :: rest))))
    (by decide) rfl (by simp [kAS]) splitStart_space hr fun t ht hat hw hd => ?_
  unfold parseCn
  simp +decide only [ht, hw, hd, if_neg hat, ↓reduceIte]
  rw [trimStart_space, trimStart_starts kAS ⟨_, _, rfl, by decide⟩, hA]
  simp +decide only [parseTextQualifiers, ↓reduceIte, hK, hS, h1, h2, trimStart_semi]
  rfl

theorem quoted_value_Q (showI : Int → Str) (parseI : Str → Option Int) (parseF : Str → Bool) (isDt : Str → Bool)
    (o : Op) (op v : Str) (h : printOp showI o = some (op, v, true)) (hp : Printable showI parseI parseF isDt o) : Q v := by
  cases o with
  | eq s =>
    cases h
    exact ⟨hp.1, hp.2.1⟩
  | not o' =>
    cases o' with
    | eq s =>
      cases h
      exact ⟨hp.1, hp.2.1⟩
    | _ => cases h
  | _ => cases h

/-- **C09 (constraint fixpoint).** A printable constraint of the modelled kinds, printed by `to_string` and followed by
anything that does not end in white space, is parsed back as the same constraint, and the parser stops exactly where
the printed text ends. -/
theorem constraint_roundtrip (showI : Int → Str) (parseI : Str → Option Int) (parseF : Str → Bool) (isDt : Str → Bool)
    (regexOk : Str → Bool) (c : Cn) (txt rest : Str)
    (hp : CnPrintable showI parseI parseF isDt regexOk c) (hprint : printCn showI c = some txt) (hr : NoTrailWs rest) :
    parseCn parseI parseF isDt regexOk (txt ++ rest) = .ok (c, trimStart rest) := by
  -- `printCn` closes with `… ++ [';']`, the theorems above are stated for `… ++ ';' :: rest`: one `append_assoc` apart
  cases c with
  | id s =>
    cases hprint
    rw [List.append_assoc]
    exact id_roundtrip parseI parseF isDt regexOk s rest hp hr
  | dataset s q =>
    cases hprint
    rw [List.append_assoc]
    exact dataset_roundtrip parseI parseF isDt regexOk s rest q hp.1 hp.2.1 hp.2.2.1 hp.2.2.2 hr
  | substore s =>
    cases s with
    | none =>
      cases hprint
      rw [List.append_assoc]
      exact substore_none_roundtrip parseI parseF isDt regexOk rest hr
    | some s =>
      cases hprint
      rw [List.append_assoc]
      exact substore_some_roundtrip parseI parseF isDt regexOk s rest hp.1 hp.2.1 hp.2.2.1 hp.2.2.2 hr
  | text s nocase =>
    cases nocase with
    | false =>
      cases hprint
      rw [List.append_assoc]
      exact text_roundtrip parseI parseF isDt regexOk s rest hp.1 hp.2.1 (hp.2.2 rfl) hr
    | true =>
      cases hprint
      rw [List.append_assoc]
      exact text_nocase_roundtrip parseI parseF isDt regexOk s rest hp.1 hp.2.1 hr
  | regex s =>
    cases hprint
    rw [List.append_assoc]
    exact regex_roundtrip parseI parseF isDt regexOk s rest hp.1 hp.2.1 hp.2.2 hr
  | dataKey set key q =>
    cases hprint
    rw [List.append_assoc]
    exact dataKey_roundtrip parseI parseF isDt regexOk set key rest q hp.1 hp.2.1 hp.2.2.1 hp.2.2.2.1 hp.2.2.2.2 hr
  | keyValue set key o q =>
    obtain ⟨hs, hk, h1, h2, h3, hpo, hpl⟩ := hp
    obtain ⟨op, v, qd, hpr, hparse⟩ := print_parse_op showI parseI parseF isDt o hpo
    have hv : if qd then Q v else PlainW v := by
      cases qd with
      | true => exact quoted_value_Q showI parseI parseF isDt o op v hpr hpo
      | false => exact hpl op v hpr
    simp only [printCn, renderOp, hpr, Option.map_some, Option.some.injEq] at hprint
    subst hprint
    rw [List.append_assoc]
    exact keyValue_roundtrip showI parseI parseF isDt regexOk set key rest q o op v qd hs hk h1 h2 h3 hpr hparse hv hr
  | _ => exact absurd hp (by simp [CnPrintable])

/-! ### the hypotheses are needed: identifiers the grammar reads differently (the known findings of C09) -/

/-- `Constraint::DataSet("AS")` is printed as `DATASET "AS";` — and refused by the parser (it reads a qualifier) -/
theorem dataset_AS_is_misread :
    (match parseCn (fun _ => none) (fun _ => false) (fun _ => false) (fun _ => true) ("DATASET \"AS\";").toList with
      | .err _ => true
      | _ => false) = true := by decide +kernel

/-- `Constraint::Text("?x")` is printed as `TEXT "?x";` — and read back as the variable `x` -/
theorem text_variable_is_misread :
    (match parseCn (fun _ => none) (fun _ => false) (fun _ => false) (fun _ => true) ("TEXT \"?x\";").toList with
      | .ok (.textVar v, r) => v == ['x'] && r == []
      | _ => false) = true := by decide +kernel

/-! ### non-vacuity -/

example : CnPrintable (fun _ => ['7']) (fun _ => some 7) (fun _ => false) (fun _ => false) (fun _ => true)
    (.keyValue ['s'] ['k'] (.gt 7) .metadata) := by
  refine ⟨⟨by decide, by decide⟩, ⟨by decide, by decide⟩, by decide, by decide, by decide, ⟨⟨['7'], by decide, by decide, Or.inl rfl⟩, rfl⟩, ?_⟩
  intro op v h
  simp [printOp] at h
  obtain ⟨_, rfl⟩ := h
  exact ⟨by decide, by decide⟩

example : (match parseCn (fun _ => some 7) (fun _ => false) (fun _ => false) (fun _ => true)
    ("DATA AS METADATA \"s\" \"k\" > 7; ID \"x\";").toList with
    | .ok (.keyValue set key (.gt n) .metadata, r) => set == ['s'] && key == ['k'] && n == 7 && r == ("ID \"x\";").toList
    | _ => false) = true := by decide +kernel

end Stam.QL.C09
