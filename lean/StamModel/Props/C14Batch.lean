import StamModel.Props.C14
/-
  C14 — batches (`AnnotationStore::annotate_from_iter`, which `annotate_from_file` and ADD queries over several
  result rows go through): one `annotate` per element, the first refusal ends the batch.

  The code does not undo the elements added before the refused one (a known finding of C14). What the theorems fix is
  the extent of it: a refused batch leaves exactly the state in which the elements before the refused one were
  annotated one by one and the refused element was attempted — nothing else; and a batch none of whose elements is
  refused is the same as annotating them one by one.
-/
namespace Stam.C14
open Stam

/-- a batch is the elements one by one, up to and including the first that is refused -/
theorem annotateAll_is_prefix (s : State) (l : List Item) :
    (∃ hs, (annotateAll s l).1 = some hs ∧ (annotateAll s l).2 = annotateSeq s l ∧ hs.length = l.length) ∨
    (∃ pre it post, l = pre ++ it :: post ∧ (annotateAll s l).1 = none ∧
      (∀ k (h : k < pre.length), ∃ hd, ((annotateSeq s (pre.take k)).annotate (pre[k]).id (pre[k]).target (pre[k]).data).1 = .ok hd) ∧
      ((annotateSeq s pre).annotate it.id it.target it.data).1 = .err ∧
      (annotateAll s l).2 = ((annotateSeq s pre).annotate it.id it.target it.data).2) := by
  induction l generalizing s with
  | nil => exact Or.inl ⟨[], rfl, rfl, rfl⟩
  | cons it r ih =>
    cases ha : (s.annotate it.id it.target it.data).1 with
    | err =>
      rw [annotateAll_cons_err r ha]
      exact Or.inr ⟨[], it, r, rfl, rfl, fun k h => absurd h (Nat.not_lt_zero k), ha, rfl⟩
    | ok hd =>
      rw [annotateAll_cons_ok r ha]
      rcases ih (s.annotate it.id it.target it.data).2 with ⟨hs, h1, h2, h3⟩ | ⟨pre, it', post, hl, h1, hk, herr, hst⟩
      · exact Or.inl ⟨hd :: hs, by rw [h1]; rfl, h2, by simp [h3]⟩
      · refine Or.inr ⟨it :: pre, it', post, by rw [hl]; rfl, by rw [h1]; rfl, ?_, herr, hst⟩
        intro k h
        cases k with
        | zero => exact ⟨hd, ha⟩
        | succ k => exact hk k (Nat.lt_of_succ_lt_succ h)

/-- whatever a refused batch leaves behind among the annotations and the reverse indices, it is what the elements
before the refused one put there: the refused element itself adds no annotation and changes no index -/
theorem refused_batch_annotations (s : State) (l : List Item) (h : (annotateAll s l).1 = none) :
    ∃ pre it post, l = pre ++ it :: post ∧ (annotateAll s l).2.anns = (annotateSeq s pre).anns ∧
      (annotateAll s l).2.edges = (annotateSeq s pre).edges := by
  rcases annotateAll_is_prefix s l with ⟨hs, h1, _, _⟩ | ⟨pre, it, post, hl, _, _, herr, hst⟩
  · rw [h] at h1; cases h1
  · obtain ⟨a, b⟩ := annotate_fail_partial (annotateSeq s pre) it.id it.target it.data herr
    exact ⟨pre, it, post, hl, by rw [hst, a], by rw [hst, b]⟩

/-- **a refused batch is not a no-op** (the known finding, on the model): the element before the refused one stays -/
theorem refused_batch_keeps_earlier_elements :
    ∃ (s : State) (l : List Item), (annotateAll s l).1 = none ∧ (annotateAll s l).2.anns ≠ s.anns := by
  refine ⟨(State.empty.addRes "r" 8).2,
    [⟨some "a", .simple (.text "r" ⟨.b 0, .b 2⟩), []⟩, ⟨some "b", .simple (.text "nores" ⟨.b 0, .b 1⟩), []⟩], ?_, ?_⟩ <;> decide

end Stam.C14
