import StamModel.Lemmas.Limit
import StamModel.Lemmas.Handles
import StamModel.Lemmas.QueryIter
import StamModel.Lemmas.QuerySem
import StamModel.Props.C01
/-
  C08 — Query results equal the meaning of their constraints, however evaluated.

  Statement (properties.jsonl): [...] a disjunction returns the union of its branches without duplicates, LIMIT
  returns the corresponding slice of the unlimited results [...].

  Proved here, about `StamModel/Collections.lean` (the code after the repairs recorded in known_findings.json):
   * `limit_is_slice` — `LimitIter` returns the slice for every begin, end (any signs) and every input;
   * `union_is_union` — `Handles::union` (all three paths: single item, sorted fast path, general path) yields
     exactly the elements of both collections, each once, with a truthful sorted flag;
   * `intersection_is_filter` — `Handles::intersection` (all six branches) keeps exactly the common elements in
     this collection's order;
   * `union_fast_path_agrees` / `intersection_fast_path_agrees` — the offset bookkeeping of the sorted fast paths
     computes what the plain membership test computes.
   * `data_constraint_first_or_later`, `data_conjunction_meaning`, `data_conjunction_order_irrelevant` — the data
     constraints of `SELECT ANNOTATION` (`StamModel/QuerySem.lean`) in every store reached by a history: index-driven
     and filter evaluation agree, a conjunction yields exactly what satisfies every constraint, in any order;
   * `subqueries_are_nested_iteration` — the nested-loop state machine of `QueryIter` (`next`, `init_all_states`,
     `init_state`, `next_state`, `estimate_stacksize`; `StamModel/QueryIter.lean`) over a chain of sub-queries of any
     depth, none of them OPTIONAL, yields exactly the rows of nested iteration, in that order, for every forest of
     results;
   * `optional_subquery_loses_rows` — with an OPTIONAL level the machine *as the code is* does not: after the first
     outer row whose OPTIONAL sub-query comes up empty the remaining outer rows are lost (the state marked `done` is
     dropped). The witness is replayed on the implementation by the `query` family (known finding); the pinned test
     `query_subquery_optional_nonexistant` asserts the lossy count, so the one-line repair cannot be a fix commit;
   * `optional_last_row_partial` — what does hold with OPTIONAL: when no outer row follows, the row is kept.
  PARTIAL: the rest of the constraint evaluator (the other constraints and the six result types, ADD/DELETE) is not
  modelled. That there the result set is independent of the order of the constraints, that
  a conjunction is the intersection of its members' results, a disjunction their union, and LIMIT the slice, is
  checked on the implementation by the `query` family over stores from operation histories (differential: every
  constraint evaluated as primary vs. as filter) — a test, not a theorem.
-/
namespace Stam.Coll.C08
open Stam.Coll

/-- **C08 (LIMIT).** Whatever the signs of begin and end, `LimitIter` returns the slice. -/
theorem limit_is_slice {α : Type} (b e : Int) (xs : List α) : limit b e xs = slice b e xs := by
  rw [limit_eq_window, slice_eq]

/-! ### what users read off LIMIT: each is about `LimitIter` itself, through `limit_eq_window` -/

/-- LIMIT returns a contiguous run of the unlimited results, in their order: nothing invented, nothing reordered,
nothing skipped in between -/
theorem limit_is_infix {α : Type} (b e : Int) (xs : List α) : limit b e xs <:+: xs := by
  rw [limit_eq_window]
  exact List.IsInfix.trans (List.drop_suffix _ _).isInfix (List.take_prefix _ _).isInfix

theorem limit_mem {α : Type} (b e : Int) (xs : List α) (x : α) (h : x ∈ limit b e xs) : x ∈ xs :=
  (limit_is_infix b e xs).subset h

/-- `LIMIT n` (begin 0, end n > 0): the first `n` results -/
theorem limit_first {α : Type} (n : Nat) (hn : 0 < n) (xs : List α) : limit 0 n xs = xs.take n := by
  rw [limit_eq_window, hi_natCast n _ hn]
  rfl

/-- no limit (`0, 0`): everything -/
theorem limit_none {α : Type} (xs : List α) : limit 0 0 xs = xs := by
  rw [limit_eq_window]
  exact List.take_length

/-- `LIMIT -n` (begin -n, end 0): the last `n` results -/
theorem limit_last {α : Type} (n : Nat) (hn : 0 < n) (xs : List α) :
    limit (-(n : Int)) 0 xs = xs.drop (xs.length - n) := by
  rw [limit_eq_window, lo_neg n _ hn]
  exact congrArg _ List.take_length

/-- a window `begin ≥ 0`, `end > begin` never returns more than `end - begin` results -/
theorem limit_length_le {α : Type} (b e : Nat) (hbe : b < e) (xs : List α) :
    (limit (b : Int) (e : Int) xs).length ≤ e - b := by
  rw [limit_eq_window, hi_natCast e _ (by omega), lo_natCast, List.length_drop]
  exact Nat.sub_le_sub_right (List.length_take_le ..) b

/-- `LIMIT b e` with `0 ≤ b`, `0 < e`: the window `[b, e)` of the unlimited results -/
theorem limit_window {α : Type} (b e : Nat) (he : 0 < e) (xs : List α) :
    limit (b : Int) (e : Int) xs = (xs.take e).drop b := by
  rw [limit_eq_window, hi_natCast e _ he, lo_natCast]

/-- **C08 (union).** For collections whose flags tell the truth, `union` holds exactly the elements of both, each
once, and its flag still tells the truth. -/
theorem union_is_union (h o : H) (hh : Truthful h) (ho : Truthful o) :
    Truthful (union h o) ∧ ∀ x, x ∈ (union h o).arr ↔ x ∈ h.arr ∨ x ∈ o.arr := by
  unfold union
  split
  · rename_i he
    exact ⟨hh, fun x => by simp [he]⟩
  · rename_i y he
    obtain ⟨h1, h2, _⟩ := add_spec h y hh
    exact ⟨h1, fun x => by rw [h2 x, he]; simp [or_comm]⟩
  · have happ : (if h.sorted = true ∧ o.sorted = true then unionFast h.arr 0 [] o.arr else unionSlow h.arr [] o.arr)
        = o.arr.filter (fun x => !h.arr.contains x) := by
      split
      · rename_i hb
        simpa using unionFast_spec h.arr (hh.1 hb.1) o.arr 0 [] (ho.1 hb.2) (fun _ _ h => h) (by simp)
      · simpa using unionSlow_spec h.arr o.arr [] ho.2 (by simp)
    simp only [happ]
    have hnd : (h.arr ++ o.arr.filter (fun x => !h.arr.contains x)).Nodup := by
      refine List.nodup_append.mpr ⟨hh.2, ho.2.sublist List.filter_sublist, fun a ha b hb hab => ?_⟩
      simp [← hab, ha] at hb
    have hmem : ∀ x, x ∈ h.arr ++ o.arr.filter (fun x => !h.arr.contains x) ↔ x ∈ h.arr ∨ x ∈ o.arr := by
      intro x
      by_cases hin : x ∈ h.arr
      · simp [hin]
      · simp [hin]
    split
    · obtain ⟨s1, s2⟩ := sortList_spec _ hnd
      exact ⟨⟨fun _ => s1, strictSorted_nodup _ s1⟩, fun x => by rw [s2 x, hmem x]⟩
    · rename_i hns
      refine ⟨⟨fun hs => ?_, hnd⟩, hmem⟩
      -- the flag is set, so nothing was appended
      rw [List.isEmpty_iff.mp (Decidable.not_not.mp fun he => hns ⟨hs, he⟩), List.append_nil]
      exact hh.1 hs

/-- **C08 (intersection).** For collections whose flags tell the truth, `intersection` leaves exactly the elements
of this collection that also occur in the other one, in this collection's order, and keeps the flag. -/
theorem intersection_is_filter (h o : H) (hh : Truthful h) (ho : Truthful o) :
    (inter h o).arr = h.arr.filter (fun x => o.arr.contains x) ∧ (inter h o).sorted = h.sorted := by
  unfold inter
  -- `split` on this five-deep else-if chain is exponential in its depth; `iteInduction` takes one branch at a time
  have branch {c : Prop} [Decidable c] {t e : H} := iteInduction (c := c) (t := t) (e := e)
    (motive := fun r => r.arr = h.arr.filter (fun x => o.arr.contains x) ∧ r.sorted = h.sorted)
  refine branch (fun he => ⟨?_, rfl⟩) fun _ => branch (fun heq => ⟨?_, rfl⟩) fun _ => branch (fun hsub => ⟨?_, rfl⟩)
    fun _ => branch (fun hsub => ⟨?_, rfl⟩) fun _ => branch (fun hboth => ⟨?_, rfl⟩) fun _ => ⟨rfl, rfl⟩
  · rcases he with he | he
    · rw [List.isEmpty_iff.mp he]
      rfl
    · rw [List.isEmpty_iff.mp he]
      simp
  · exact (filter_contains_of_subset (fun x hx => heq.2.2.2 ▸ hx)).symm
  · -- a strictly sorted subset is what the filter leaves of a strictly sorted list
    obtain ⟨_, hs1, hs2, hsubset⟩ := hsub
    refine pairwise_lt_ext (ho.1 hs2) (List.Pairwise.filter _ (hh.1 hs1)) (fun x => ?_)
    rw [List.mem_filter, List.contains_iff_mem]
    exact ⟨fun hx => ⟨(isSubset_iff _ _).mp hsubset x hx, hx⟩, And.right⟩
  · exact (filter_contains_of_subset ((isSubset_iff _ _).mp hsub.2)).symm
  · exact interFast_spec o.arr (ho.1 hboth.2) h.arr 0 (hh.1 hboth.1) (fun _ _ h => h)

theorem union_fast_path_agrees (a b : List Nat) (ha : StrictSorted a) (hb : StrictSorted b) :
    unionFast a 0 [] b = unionSlow a [] b := by
  rw [unionFast_spec a ha b 0 [] hb (fun _ _ h => h) (by simp),
      unionSlow_spec a b [] (strictSorted_nodup b hb) (by simp)]

theorem intersection_fast_path_agrees (a b : List Nat) (ha : StrictSorted a) (hb : StrictSorted b) :
    interFast b 0 a = a.filter (fun x => b.contains x) :=
  interFast_spec b hb a 0 ha (fun _ _ h => h)

/-- collections built by `from_iter` from duplicate-free handle lists satisfy the hypotheses -/
theorem built_collections_are_truthful (l : List Nat) (hl : l.Nodup) : Truthful (fromIter l) :=
  ⟨fun hs => ((noDescent_sorted l hs).and hl).imp fun h => Nat.lt_of_le_of_ne h.1 h.2, hl⟩

/-! ## data constraints of SELECT ANNOTATION: however evaluated -/
open Stam Stam.C01 in
/-- **C08 (first constraint vs. later constraint).** In every store reached by a history of operations, a data
constraint (`DATA set key`, `DATA set key op value`, `VALUE op value`; `found` = the data items it matches) gives the
same annotations, in the same order, whether it is evaluated index-driven as the first constraint
(`find_data(..).annotations()`, through the reverse index) or as a filter on the annotations' own data. -/
theorem data_constraint_first_or_later (ops : List StoreOp) (found : List (Nat × Nat)) :
    (run ops).annsOfData found = (run ops).annsWithData found :=
  annsOfData_eq_annsWithData _ (inv_run ops) found

open Stam Stam.C01 in
/-- **C08 (exactly the items that satisfy all constraints).** A conjunction of data constraints — the first one
index-driven, the others filtering — yields exactly the live annotations that carry, for every constraint, a data
item it matches. -/
theorem data_conjunction_meaning (ops : List StoreOp) (first : List (Nat × Nat)) (others : List (List (Nat × Nat)))
    (h : Nat) :
    h ∈ (run ops).annsQuery first others ↔
      ∀ f ∈ first :: others, ∃ a, getLive (run ops).anns h = some a ∧ ∃ p ∈ f, p ∈ a.data := by
  rw [mem_annsQuery (inv_run ops)]
  constructor
  · intro hh f hf; exact (mem_annsWithData _ f h).1 (hh f hf)
  · intro hh f hf; exact (mem_annsWithData _ f h).2 (hh f hf)

open Stam Stam.C01 in
/-- **C08 (the order of the constraints is irrelevant).** Written in any order (any of them first, hence
index-driven), a conjunction of data constraints gives the same list of annotations. -/
theorem data_conjunction_order_irrelevant (ops : List StoreOp) (c1 c2 : List (Nat × Nat))
    (cs1 cs2 : List (List (Nat × Nat))) (hperm : ∀ f, f ∈ c1 :: cs1 ↔ f ∈ c2 :: cs2) :
    (run ops).annsQuery c1 cs1 = (run ops).annsQuery c2 cs2 := by
  apply strict_eq_of_mem_iff _ _ annsQuery_strict annsQuery_strict
  intro h
  rw [mem_annsQuery (inv_run ops), mem_annsQuery (inv_run ops)]
  constructor
  · intro hh f hf; exact hh f ((hperm f).2 hf)
  · intro hh f hf; exact hh f ((hperm f).1 hf)

/-! ## sub-queries -/
open Stam.QI in
/-- **C08 (sub-queries behave as nested iteration over the outer results).** `n` levels (the top-level query and
`n - 1` nested sub-queries), none OPTIONAL; `roots` is the forest of results: the results of the top-level query, and
under each result the results of the sub-query evaluated with that result bound. -/
theorem subqueries_are_nested_iteration {α : Type} (n : Nat) (hn : 1 ≤ n) (roots : List (QI.Tree α)) :
    QI.rows n (List.replicate n false) roots = QI.nested (List.replicate n false) roots := by
  have hopt : NoOpt (List.replicate n false) := by
    intro i
    by_cases h : i < n <;> simp [h]
  rw [rows_eq_below n hn _ hopt roots]
  unfold nested
  rw [List.tail_replicate, funext (rowsAt_replicate_false (n - 1))]

open Stam.QI in
/-- **C08, negative (the code as it is).** Two outer results; the OPTIONAL sub-query is empty for the first and has a
result for the second: nested iteration gives `[[1], [2, 3]]`, the machine gives `[[1]]`. -/
theorem optional_subquery_loses_rows :
    QI.rows 2 [false, true] [Tree.node 1 [], Tree.node 2 [Tree.node 3 []]] = [[1]]
    ∧ QI.nested [false, true] [Tree.node 1 [], Tree.node 2 [Tree.node 3 []]] = [[1], [2, 3]] := by
  decide

open Stam.QI in
/-- **C08 (OPTIONAL), partial.** The case the pinned tests exercise: the outer row whose OPTIONAL sub-query is empty is
the last one. -/
theorem optional_last_row_partial :
    QI.rows 2 [false, true] [Tree.node 2 [Tree.node 3 []], Tree.node 1 []]
      = QI.nested [false, true] [Tree.node 2 [Tree.node 3 []], Tree.node 1 []] := by
  decide

/-! ## non-vacuity: the inputs on which the code failed before the repairs -/
example : QI.rows 3 [false, false, false] [QI.Tree.node 1 [QI.Tree.node 2 [], QI.Tree.node 3 [QI.Tree.node 4 []]], QI.Tree.node 5 [QI.Tree.node 6 [QI.Tree.node 7 [], QI.Tree.node 8 []]]]
    = [[1, 3, 4], [5, 6, 7], [5, 6, 8]] := by decide

example : (union (fromIter [2]) (fromIter [1, 2, 7])).arr = [1, 2, 7] := by decide
example : (union (fromIter [1, 9]) (fromIter [5, 7, 9])).arr = [1, 5, 7, 9] := by decide
example : (inter (fromIter [0, 2]) (fromIter [2, 8, 9])).arr = [2] := by decide
example : (inter (fromIter [10, 1, 11, 6, 5, 7]) (fromIter [5, 11])).arr = [11, 5] := by decide
example : limit (-3) (-1) [0, 1, 2, 3, 4, 5, 6, 7, 8, 9] = [7, 8] := by decide
example : limit (-1) 1 [0, 1] = ([] : List Nat) := by decide
example : Truthful (fromIter [3, 1, 2]) ∧ Truthful (fromIter [1, 2, 3]) :=
  ⟨built_collections_are_truthful _ (by decide), built_collections_are_truthful _ (by decide)⟩

end Stam.Coll.C08
