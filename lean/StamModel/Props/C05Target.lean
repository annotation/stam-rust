import StamModel.Lemmas.Csv
import StamModel.Lemmas.JsonSel
/-
  C05 — the STAM JSON of an annotation's target reads back as the target that was written.

  Proved here, about `StamModel/JsonSel.lean`:
   * `target_json_roundtrip` — for every target (a simple selector of any of the six kinds, with or without an offset,
     or a Multi/Composite/Directional selector over any number of simple selectors), with ANY identifiers (JSON strings
     carry every text) and any cursors of either alignment, the reader builds from the JSON written exactly the target
     that was written: kind, identifiers, offsets with their alignment, order of the sub-selectors.
-/
namespace Stam.C05
open Stam Stam.Csv Stam.JS

theorem cursor_json_roundtrip (c : Cursor) : readCursor (cursorJ c) = .ok c := by
  cases c with
  | b n =>
    have : ¬ ((n : Int) < 0) := Int.not_lt.2 (Int.natCast_nonneg n)
    simp only [cursorJ, readCursor, field_cons_self, field_cons_ne kType_kValue, if_true, this, if_false, Int.toNat_natCast]
  | e z =>
    have hne : ("EndAlignedCursor".toList = "BeginAlignedCursor".toList) = False :=
      eq_false (mt String.toList_inj.1 (by decide))
    simp only [cursorJ, readCursor, field_cons_self, field_cons_ne kType_kValue, hne, if_true, if_false]

/-- an offset is read from its `begin` and `end` members, whatever its `@type` member holds -/
theorem readOffset_obj (t : J) (b e : Cursor) :
    readOffset (.obj [(kType, t), (kBegin, cursorJ b), (kEnd, cursorJ e)]) = .ok (b, e) := by
  simp only [readOffset, field_cons_self, field_cons_ne kType_kBegin, field_cons_ne kType_kEnd, field_cons_ne kBegin_kEnd,
    cursor_json_roundtrip, Out.bind_ok]

theorem offset_json_roundtrip (b e : Cursor) : readOffset (offsetJ b e) = .ok (b, e) :=
  readOffset_obj ..

theorem sub_json_roundtrip (s : Sub) : JS.readSub (subJ s) = .ok s := by
  -- `rw` as far as the parsed kind leaves one arm of the reader; `simp` would first rewrite inside all eight
  rcases s with ⟨r, b, e⟩ | ⟨a, _ | ⟨b, e⟩⟩ | r | d | ⟨d, k⟩ | ⟨d, x⟩ <;>
    rw [subJ, JS.readSub, strField_cons_self, Out.bind_ok, parseKind_kindStr] <;>
    simp only [strField_cons_self, strField_cons_ne, field_cons_self, field_cons_ne, field_nil, kType_kResource, kType_kOffset,
      kResource_kOffset, kType_kAnnotation, kAnnotation_kOffset, kType_kSet, kType_kKey, kSet_kKey, kType_kData, kSet_kData,
      Out.bind_ok, offsetJ, readOffset_obj]

theorem subs_json_roundtrip (subs : List Sub) : readSubsJ (subs.map subJ) = .ok subs := by
  induction subs with
  | nil => rfl
  | cons s rest ih => simp only [List.map_cons, readSubsJ, sub_json_roundtrip, ih, Out.bind_ok]

/-- **C05 (target round trip).** The target read from the STAM JSON written for a target is that target. -/
theorem target_json_roundtrip (t : Target) (ht : match t with | .complex k _ => k.isComplex = true | .simple _ => True) :
    readTargetJ (targetJ t) = .ok t := by
  cases t with
  | simple s =>
    obtain ⟨ms, hms⟩ := subJ_obj s
    have hs := sub_json_roundtrip s
    rw [hms] at hs
    simp only [targetJ, hms, readTargetJ, strField_cons_self, Out.bind_ok, parseKind_kindStr, Sub.kind_isComplex,
      Bool.false_eq_true, if_false, hs]
  | complex k subs =>
    simp only at ht
    simp only [targetJ, readTargetJ, strField_cons_self, field_cons_self, field_cons_ne kType_kSelectors, Out.bind_ok,
      parseKind_kindStr, ht, if_true, subs_json_roundtrip]

example : readTargetJ (targetJ (.complex .dir [.ann "a\"1".toList (some (.b 0, .e 0)), .key "s".toList "k;x".toList]))
    = .ok (.complex .dir [.ann "a\"1".toList (some (.b 0, .e 0)), .key "s".toList "k;x".toList]) :=
  target_json_roundtrip _ rfl

theorem t_ne (a b : String) (h : a.toList ≠ b.toList) : ¬ (a.toList = b.toList) := h

mutual
/-- **C05 (typed values).** Every data value — null, booleans, integers of any size, float and datetime literals,
strings, lists nested to any depth — written as STAM JSON is read back as the same value of the same type. -/
theorem value_json_roundtrip (isDt : S → Bool) (showF : Int → S) :
    ∀ (v : DVJ) (fuel : Nat), v.depth ≤ fuel → (∀ l ∈ dtLits v, isDt l = true) → readValue isDt showF fuel (valueJ v) = .ok v
  | v, 0, hf, _ => absurd hf (Nat.not_le_of_gt (depth_pos v))
  | v, f + 1, hf, hd => by
    cases v with
    | list xs =>
      have := values_json_roundtrip isDt showF xs f (by simp only [DVJ.depth] at hf; omega) (by simpa only [dtLits] using hd)
      simp only [valueJ, tagged, readValue, field_cons_self, field_cons_ne kType_kValue, String.toList_inj, String.reduceEq,
        if_false, if_true, this, Out.bind_ok]
    | dt l =>
      simp only [valueJ, tagged, readValue, field_cons_self, field_cons_ne kType_kValue, String.toList_inj, String.reduceEq,
        if_false, if_true, hd l (by simp [dtLits])]
    | _ =>
      simp only [valueJ, tagged, readValue, field_cons_self, field_cons_ne kType_kValue, String.toList_inj, String.reduceEq,
        if_false, if_true]

theorem values_json_roundtrip (isDt : S → Bool) (showF : Int → S) :
    ∀ (xs : List DVJ) (fuel : Nat), depths xs ≤ fuel → (∀ l ∈ dtLitss xs, isDt l = true) →
      readValues isDt showF fuel (valuesJ xs) = .ok xs
  | [], _, _, _ => by simp only [valuesJ, readValues]
  | x :: xs, fuel, hf, hd => by
    simp only [depths, Nat.max_le] at hf
    simp only [dtLitss, List.mem_append] at hd
    simp only [valuesJ, readValues, value_json_roundtrip isDt showF x fuel hf.1 fun l hl => hd l (.inl hl),
      values_json_roundtrip isDt showF xs fuel hf.2 fun l hl => hd l (.inr hl), Out.bind_ok]
end

end Stam.C05
