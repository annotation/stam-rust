import StamModel.Props.C09Constraints
/-
  C09 — print-then-parse for RESOURCE and ANNOTATION (with and without RECURSIVE and an OFFSET clause), RELATION and
  VALUE; KEY (variables only) and LIMIT, the other kinds of `parseCnMore`, have no such theorem.
-/
namespace Stam.QL.C09
open Stam.QL

theorem closed_semi (t : Str) : closed (';' :: t) = true := rfl

theorem parseOffset_semi (parseI : Str → Option Int) (parseNat : Str → Option Nat) (isDt : Str → Bool) (t : Str) :
    parseOffset parseI parseNat isDt (';' :: t) = .ok (none, ';' :: t) := rfl

/-- `RESOURCE [AS METADATA] "id" <offset clause>;` given what `parse_offset` makes of the clause -/
theorem resource_roundtrip_off (parseI : Str → Option Int) (parseF : Str → Bool) (isDt : Str → Bool) (regexOk : Str → Bool)
    (parseNat : Str → Option Nat)
    (s rest T : Str) (q : Qual) (off : Option (Cursor × Cursor))
    (hs : Q s) (h1 : s ≠ kAS) (h2 : s ≠ kRECURSIVE) (h3 : isVar s = false) (hr : NoTrailWs rest)
    (hoff : parseOffset parseI parseNat isDt (trimStart (T ++ ';' :: rest)) = .ok (off, ';' :: rest)) :
    parseCnAll parseI parseF isDt regexOk parseNat (kRESOURCE ++ qualStr q ++ [' '] ++ quote s ++ T ++ ';' :: rest)
      = .ok (.resource s q off, trimStart rest) := by
  obtain ⟨a, r, ty, ha, hq⟩ := qual_prefix isDt q s (T ++ ';' :: rest) hs h1 h2
  refine parseCnAll_of_more (kw := kRESOURCE) (n := 8) (Z := qualStr q ++ ' ' :: (quote s ++ (T ++ ';' :: rest)))
    (by decide) rfl (by simp) (splitStart_qualStr q _) hr fun t hd => ?_
  unfold parseCnMore
  rw [if_neg (by decide), if_pos rfl, hd, ha]
  simp only [hq, hoff, h3]
  rfl

/-- `RESOURCE [AS METADATA] "id";` -/
theorem resource_roundtrip (parseI : Str → Option Int) (parseF : Str → Bool) (isDt : Str → Bool) (regexOk : Str → Bool)
    (parseNat : Str → Option Nat)
    (s rest : Str) (q : Qual) (hs : Q s) (h1 : s ≠ kAS) (h2 : s ≠ kRECURSIVE) (h3 : isVar s = false) (hr : NoTrailWs rest) :
    parseCnAll parseI parseF isDt regexOk parseNat (kRESOURCE ++ qualStr q ++ [' '] ++ quote s ++ ';' :: rest)
      = .ok (.resource s q none, trimStart rest) := by
  have := resource_roundtrip_off parseI parseF isDt regexOk parseNat s rest [] q none hs h1 h2 h3 hr
    (by rw [List.nil_append, trimStart_semi]; exact parseOffset_semi parseI parseNat isDt rest)
  simpa using this

theorem plain_kRECURSIVE : Plain kRECURSIVE := plain_keywords _ (by decide)

/-- after `ANNOTATION`: the optional ` AS METADATA`, the optional ` RECURSIVE` (a space in its place when absent),
then the quoted identifier -/
theorem qual_rec_prefix (isDt : Str → Bool) (q : Qual) (rec : Bool) (s tail : Str) (hs : Q s) (h1 : s ≠ kAS) (h2 : s ≠ kRECURSIVE) :
    ∃ a r ty, arg isDt (trimStart (qualStr q ++ (if rec then [' '] ++ kRECURSIVE else [' ']) ++ [' '] ++ quote s ++ tail)) = .ok (a, r, ty) ∧
      parseQualifiers isDt a r = .ok (s, trimStart tail, q, rec) := by
  have hq : arg isDt (trimStart (quote s ++ tail)) = .ok (s, trimStart tail, argType isDt s true) := by
    rw [trimStart_quote_app]
    exact arg_quoted isDt s tail hs.1 hs.2
  cases rec with
  | true =>
    simpa only [List.append_assoc, List.singleton_append, List.cons_append, List.nil_append, ↓reduceIte] using
      qualifiers_printed isDt q true (quote s ++ tail) s (trimStart tail) hq h1 h2
  | false =>
    -- no `RECURSIVE`: a second space is printed in its place
    simpa only [List.append_assoc, List.singleton_append, List.cons_append, List.nil_append, Bool.false_eq_true, ↓reduceIte] using
      qualifiers_printed isDt q false (' ' :: (quote s ++ tail)) s (trimStart tail) (by rw [trimStart_space]; exact hq) h1 h2

/-- `ANNOTATION [AS METADATA] [RECURSIVE] "id" <offset clause>;` given what `parse_offset` makes of the clause -/
theorem annotation_roundtrip_off (parseI : Str → Option Int) (parseF : Str → Bool) (isDt : Str → Bool) (regexOk : Str → Bool)
    (parseNat : Str → Option Nat)
    (s rest T : Str) (q : Qual) (rec : Bool) (off : Option (Cursor × Cursor))
    (hs : Q s) (h1 : s ≠ kAS) (h2 : s ≠ kRECURSIVE) (h3 : isVar s = false) (hr : NoTrailWs rest)
    (hoff : parseOffset parseI parseNat isDt (trimStart (T ++ ';' :: rest)) = .ok (off, ';' :: rest)) :
    parseCnAll parseI parseF isDt regexOk parseNat
        (kANNOTATION ++ qualStr q ++ (if rec then [' '] ++ kRECURSIVE else [' ']) ++ [' '] ++ quote s ++ T ++ ';' :: rest)
      = .ok (.annotation s q rec off, trimStart rest) := by
  obtain ⟨a, r, ty, ha, hq⟩ := qual_rec_prefix isDt q rec s (T ++ ';' :: rest) hs h1 h2
  refine parseCnAll_of_more (kw := kANNOTATION) (n := 10)
    (Z := qualStr q ++ (if rec then [' '] ++ kRECURSIVE else [' ']) ++ [' '] ++ quote s ++ (T ++ ';' :: rest))
    (by decide) rfl (by simp) (by cases q <;> cases rec <;> exact splitStart_space) hr fun t hd => ?_
  unfold parseCnMore
  rw [if_pos rfl, hd, ha]
  simp only [hq, hoff, h3]
  rfl

/-- `ANNOTATION [AS METADATA] [RECURSIVE] "id";` -/
theorem annotation_roundtrip (parseI : Str → Option Int) (parseF : Str → Bool) (isDt : Str → Bool) (regexOk : Str → Bool)
    (parseNat : Str → Option Nat)
    (s rest : Str) (q : Qual) (rec : Bool) (hs : Q s) (h1 : s ≠ kAS) (h2 : s ≠ kRECURSIVE) (h3 : isVar s = false) (hr : NoTrailWs rest) :
    parseCnAll parseI parseF isDt regexOk parseNat
        (kANNOTATION ++ qualStr q ++ (if rec then [' '] ++ kRECURSIVE else [' ']) ++ [' '] ++ quote s ++ ';' :: rest)
      = .ok (.annotation s q rec none, trimStart rest) := by
  have := annotation_roundtrip_off parseI parseF isDt regexOk parseNat s rest [] q rec none hs h1 h2 h3 hr
    (by rw [List.nil_append, trimStart_semi]; exact parseOffset_semi parseI parseNat isDt rest)
  simpa using this

/-- `RELATION ?var OPERATOR;` -/
theorem relation_roundtrip (parseI : Str → Option Int) (parseF : Str → Bool) (isDt : Str → Bool) (regexOk : Str → Bool)
    (parseNat : Str → Option Nat)
    (v op rest : Str) (hv : Plain v) (hop : op ∈ relationOps) (hr : NoTrailWs rest) :
    parseCnAll parseI parseF isDt regexOk parseNat (kRELATION ++ [' ', '?'] ++ v ++ [' '] ++ op ++ ';' :: rest)
      = .ok (.relation v op, trimStart rest) := by
  have hops : ∀ op ∈ relationOps, PlainW op := by
    unfold PlainW
    decide +kernel
  have hpo := plainW_plain (hops op hop)
  have hso := plainW_starts (hops op hop)
  have hpv : Plain ('?' :: v) := by
    intro c hc
    rcases List.mem_cons.mp hc with rfl | h
    · exact ⟨by decide, by decide⟩
    · exact hv c h
  refine parseCnAll_of_more (kw := kRELATION) (n := 8) (Z := ' ' :: (('?' :: v) ++ ' ' :: (op ++ ';' :: rest)))
    (by decide) rfl (by simp) splitStart_space hr fun t hd => ?_
  unfold parseCnMore
  rw [if_neg (by decide), if_neg (by decide), if_pos rfl, hd, trimStart_space,
    trimStart_starts _ ⟨_, _, rfl, by decide⟩, arg_word isDt ('?' :: v) ' ' _ (by decide) hpv]
  dsimp only
  rw [if_neg (by simp [startsWith]), trimStart_space, trimStart_starts op hso, arg_word isDt op ';' rest (by decide) hpo]
  simp only [List.contains_eq_mem, hop, decide_true, ↓reduceIte, trimStart_semi]
  rfl

theorem tok_ne (op : Str) (h : IsTok op) : op ≠ kAS ∧ op ≠ kRECURSIVE := by
  rcases h with rfl | rfl | rfl | rfl | rfl | rfl <;> exact ⟨by decide, by decide⟩

/-- `VALUE [AS METADATA] <operator> <value>;` -/
theorem value_core (parseI : Str → Option Int) (parseF : Str → Bool) (isDt : Str → Bool) (regexOk : Str → Bool)
    (parseNat : Str → Option Nat)
    (rest : Str) (q : Qual) (o : Op) (op v V : Str) (ty : ArgType)
    (htok : IsTok op) (hpo : parseOp parseI parseF isDt op v ty = .ok o)
    (hval : arg isDt (trimStart (V ++ ';' :: rest)) = .ok (v, ';' :: rest, ty)) (hr : NoTrailWs rest) :
    parseCnAll parseI parseF isDt regexOk parseNat (kVALUE ++ qualStr q ++ [' '] ++ (op ++ [' '] ++ V) ++ ';' :: rest)
      = .ok (.value o q, trimStart rest) := by
  obtain ⟨hplain, htrim, _⟩ := tok_facts op htok (' ' :: (V ++ ';' :: rest))
  obtain ⟨hne1, hne2⟩ := tok_ne op htok
  obtain ⟨a, r, ty', hA, hP⟩ := qualifiers_printed isDt q false (op ++ ' ' :: (V ++ ';' :: rest)) op _
    (by rw [htrim]; exact arg_word isDt op ' ' (V ++ ';' :: rest) (by decide) hplain) hne1 hne2
  refine parseCnAll_of_more (kw := kVALUE) (n := 5)
    (Z := qualStr q ++ (if false then ' ' :: kRECURSIVE else []) ++ ' ' :: (op ++ ' ' :: (V ++ ';' :: rest)))
    (by decide) rfl (by simp) (by cases q <;> exact splitStart_space) hr fun t hd => ?_
  unfold parseCnMore
  rw [if_neg (by decide), if_neg (by decide), if_neg (by decide), if_pos rfl, hd, hA]
  simp only [hP, trimStart_space, hval, hpo]
  rfl

theorem value_roundtrip (showI : Int → Str) (parseI : Str → Option Int) (parseF : Str → Bool) (isDt : Str → Bool) (regexOk : Str → Bool)
    (parseNat : Str → Option Nat)
    (rest : Str) (q : Qual) (o : Op) (op v : Str) (qd : Bool)
    (hpr : printOp showI o = some (op, v, qd)) (hpo : parseOp parseI parseF isDt op v (argType isDt v qd) = .ok o)
    (hv : if qd then Q v else PlainW v) (hr : NoTrailWs rest) :
    parseCnAll parseI parseF isDt regexOk parseNat
      (kVALUE ++ qualStr q ++ [' '] ++ (op ++ [' '] ++ (if qd then quote v else v)) ++ ';' :: rest)
      = .ok (.value o q, trimStart rest) :=
  value_core parseI parseF isDt regexOk parseNat rest q o op v _ _ (printOp_tok showI o op v qd hpr) hpo
    (arg_printed_value isDt v rest qd hv) hr

/-- a cursor whose printed text the parser takes back: a word that begins with a digit or `-`, read by
`Cursor::try_from` as the cursor it came from -/
def CursorOk (showI : Int → Str) (parseI : Str → Option Int) (parseNat : Str → Option Nat) (c : Cursor) : Prop :=
  Plain (cursorStr showI c) ∧
  (∃ h r, cursorStr showI c = h :: r ∧ isWs h = false ∧ h ≠ ';' ∧ h ≠ ']' ∧ h ≠ 'O') ∧
  cursorStr showI c ≠ kWHOLE ∧ cursorStr showI c ≠ kALL ∧
  cursorArg parseI parseNat (cursorStr showI c) = .ok c

theorem closed_of_head (h : Char) (r x : Str) (h1 : h ≠ ';') (h2 : h ≠ ']') (h3 : h ≠ 'O') : closed (h :: r ++ x) = false :=
  closed_cons h _ h1 h2 h3

/-- ` OFFSET <begin> <end>` before the closing `;` -/
theorem parseOffset_printed (showI : Int → Str) (parseI : Str → Option Int) (parseNat : Str → Option Nat) (isDt : Str → Bool)
    (b e : Cursor) (rest : Str) (hb : CursorOk showI parseI parseNat b) (he : CursorOk showI parseI parseNat e) :
    parseOffset parseI parseNat isDt (trimStart (offStr showI (some (b, e)) ++ ';' :: rest)) = .ok (some (b, e), ';' :: rest) := by
  have hbw : OpenWord (cursorStr showI b) := ⟨hb.1, hb.2.1⟩
  obtain ⟨het, hcl, hE⟩ := OpenWord.arg (w := cursorStr showI e) ⟨he.1, he.2.1⟩ isDt rest
  have hform : trimStart (offStr showI (some (b, e)) ++ ';' :: rest)
      = kOFFSET ++ ' ' :: (cursorStr showI b ++ ' ' :: (cursorStr showI e ++ ';' :: rest)) := by
    simp only [offStr, List.append_assoc, List.cons_append, List.nil_append, trimStart_space]
    exact trimStart_starts kOFFSET ⟨_, _, rfl, by decide⟩
  -- both tests compute on a text that begins with `OFFSET`
  have hcond (X : Str) : (!closed (kOFFSET ++ X) && startsWith (kOFFSET ++ X) kOFFSET) = true := rfl
  obtain ⟨-, hd⟩ := word_text (kw := kOFFSET) (n := 6) (by unfold Word; decide) rfl rfl
    (splitStart_space (y := cursorStr showI b ++ ' ' :: (cursorStr showI e ++ ';' :: rest)))
  rw [hform]
  unfold parseOffset
  rw [if_pos (hcond _), hd, trimStart_space, arg_keyword isDt hbw.1 hbw.starts]
  dsimp only
  rw [if_neg (not_or.mpr ⟨hb.2.2.1, hb.2.2.2.1⟩), hb.2.2.2.2]
  dsimp only
  rw [het, hcl, hE]
  dsimp only
  rw [he.2.2.2.2]
  rfl

/-- the OFFSET clause as printed, or its absence, before the closing `;` -/
theorem parseOffset_offStr (showI : Int → Str) (parseI : Str → Option Int) (parseNat : Str → Option Nat) (isDt : Str → Bool)
    (off : Option (Cursor × Cursor)) (rest : Str)
    (ho : ∀ b e, off = some (b, e) → CursorOk showI parseI parseNat b ∧ CursorOk showI parseI parseNat e) :
    parseOffset parseI parseNat isDt (trimStart (offStr showI off ++ ';' :: rest)) = .ok (off, ';' :: rest) := by
  cases off with
  | none =>
    simp only [offStr, List.nil_append, trimStart_semi]
    exact parseOffset_semi parseI parseNat isDt rest
  | some p => exact parseOffset_printed showI parseI parseNat isDt p.1 p.2 rest (ho _ _ rfl).1 (ho _ _ rfl).2

end Stam.QL.C09
