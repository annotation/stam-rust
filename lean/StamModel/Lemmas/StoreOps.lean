import StamModel.Lemmas.StoreRemove
/-
  Every removal operation is `Shrunk`. Each proof follows the operation: sweeps (`removeAll_swept`), then a final
  filter of index entries whose every user has just been swept (`Swept.filter_dead`).
-/
namespace Stam

theorem rmAnn_shrunk (s : State) (r : Ref) : Shrunk s (s.rmAnn r).2 := by
  intro hi
  unfold State.rmAnn
  split
  · rename_i s1 hs
    obtain ⟨h, _, hr⟩ := Option.bind_eq_some_iff.1 hs
    exact removeAnn_shrunk hr hi
  · exact Shrunk.refl s hi

theorem rmRes_shrunk (s : State) (id : String) : Shrunk s (s.rmRes id).2 := by
  intro hi
  unfold State.rmRes
  split
  · exact Shrunk.refl s hi
  rename_i rh _
  simp only []
  split
  · exact Shrunk.refl s hi
  rename_i s1 h1
  have a := removeAll_swept hi h1
  split
  · exact a.shrunk
  rename_i s2 h2
  have b := removeAll_swept a.inv h2
  refine b.filter_dead a.shrinks (fun k => match k with
    | .resMeta r => r != rh
    | .tsel r _ => r != rh
    | _ => true) ?_ _ _
  intro x ax hx k hk
  cases k with
  | resMeta r =>
    simp only [bne_iff_ne, ne_eq]
    rintro rfl
    exact a.not_key hi (b.mono x ax hx) hk
  | tsel r t =>
    simp only [bne_iff_ne, ne_eq]
    rintro rfl
    refine b.not_root hx ?_
    rw [mem_dedupSorted, List.mem_map]
    exact ⟨(Key.tsel r t, x), by simp [List.mem_filter, (a.inv.mem _ _).2 ⟨ax, b.mono x ax hx, hk⟩], rfl⟩
  | _ => rfl

theorem rmSet_shrunk (s : State) (id : String) : Shrunk s (s.rmSet id).2 := by
  intro hi
  unfold State.rmSet
  split
  · exact Shrunk.refl s hi
  rename_i sh _
  simp only []
  split
  · exact Shrunk.refl s hi
  rename_i s1 h1
  have a := removeAll_swept hi h1
  split
  · exact a.shrunk
  rename_i s2 h2
  have b := removeAll_swept a.inv h2
  refine b.filter_dead a.shrinks (fun k => match k with
    | .setMeta x => x != sh
    | .keyMeta x _ => x != sh
    | .dataMeta x _ => x != sh
    | .data x _ => x != sh
    | _ => true) ?_ _ _
  intro x ax hx k hk
  have hx1 := b.mono x ax hx
  have hx0 := a.mono x ax hx1
  -- `x` survived the first sweep, so it is in none of the swept classes
  have hnot := a.not_root hx1
  rw [mem_dedupSorted, List.mem_append, not_or] at hnot
  cases k with
  | setMeta y =>
    simp only [bne_iff_ne, ne_eq]
    rintro rfl
    exact b.not_key a.inv hx hk
  | keyMeta y _ | dataMeta y _ =>
    simp only [bne_iff_ne, ne_eq]
    rintro rfl
    have hm := (hi.mem _ _).2 ⟨ax, hx0, hk⟩
    exact hnot.2 (List.mem_map.2 ⟨_, List.mem_filter.2 ⟨hm, by simp⟩, rfl⟩)
  | data y dd =>
    simp only [bne_iff_ne, ne_eq]
    rintro rfl
    refine hnot.1 ?_
    rw [List.mem_filter, List.mem_range, hx0]
    exact ⟨getLive_lt _ _ _ hx0, List.any_eq_true.2 ⟨_, (data_key_mem_fwd ax y dd).1 hk, by simp⟩⟩
  | _ => rfl

theorem fwd_filter_data (a : AnnM) (sh dh : Nat) (k : Key) :
    k ∈ ({ a with data := a.data.filter (fun p => !(p.1 == sh && p.2 == dh)) } : AnnM).fwd ↔
      (k ∈ a.fwd ∧ k ≠ Key.data sh dh) := by
  simp only [AnnM.fwd, List.mem_append, List.mem_map, List.mem_filter, List.mem_flatMap]
  constructor
  · rintro (⟨p, ⟨hp, hne⟩, rfl⟩ | ⟨m, hm, hk⟩)
    · refine ⟨Or.inl ⟨p, hp, rfl⟩, ?_⟩
      intro hc; simp at hc; simp [hc.1, hc.2] at hne
    · exact ⟨Or.inr ⟨m, hm, hk⟩, fun hc => data_key_not_mem_keys m sh dh (hc ▸ hk)⟩
  · rintro ⟨(⟨p, hp, rfl⟩ | ⟨m, hm, hk⟩), hne⟩
    · refine Or.inl ⟨p, ⟨hp, ?_⟩, rfl⟩
      simp only [Bool.not_eq_true', Bool.and_eq_false_iff, beq_eq_false_iff_ne]
      by_cases h1 : p.1 = sh
      · right; intro h2; exact hne (by rw [h1, h2])
      · left; exact h1
    · exact Or.inr ⟨m, hm, hk⟩

theorem dropOne_shrunk {s : State} {ah : Nat} {a : AnnM} (hl : getLive s.anns ah = some a) (sh dh : Nat) :
    Shrunk s { s with anns := setAt s.anns ah (some { a with data := a.data.filter (fun p => !(p.1 == sh && p.2 == dh)) }),
                      edges := eraseEdge s.edges (.data sh dh) ah } := by
  intro hi
  have hget := getLive_setAt_of_lt (getLive_lt _ _ _ hl)
    (some { a with data := a.data.filter (fun p => !(p.1 == sh && p.2 == dh)) })
  refine ⟨⟨?_, hi.nodup.erase _, List.Pairwise.sublist List.erase_sublist hi.sorted⟩, ?_, length_setAt _ _ _, ?_⟩
  · intro k x
    rw [eraseEdge, hi.nodup.mem_erase_iff, hi.mem, hget]
    split
    · rename_i hx
      subst hx
      simp only [hl, Option.some.injEq, exists_eq_left', fwd_filter_data]
      constructor
      · rintro ⟨hne, hk⟩
        exact ⟨hk, fun hc => hne (by rw [hc])⟩
      · rintro ⟨hk, hne⟩
        exact ⟨fun hc => hne (by cases hc; rfl), hk⟩
    · rename_i hx
      exact ⟨fun h => h.2, fun h => ⟨fun hc => hx (by cases hc; rfl), h⟩⟩
  · intro x a' hx
    rw [hget] at hx
    split at hx
    · rename_i hc
      cases hx
      subst hc
      exact ⟨a, hl, rfl, rfl, fun k hk => ((fwd_filter_data a sh dh k).1 hk).1⟩
    · exact ⟨a', hx, rfl, rfl, fun _ hk => hk⟩
  · -- nothing was removed
    intro y hy hg
    rw [hget] at hg
    split at hg
    · cases hg
    · rw [hg] at hy
      cases hy

theorem dropData_shrunk (s s' : State) (sh dh : Nat) (strict : Bool) (ah : Nat)
    (hd : s.dropData sh dh strict ah = some s') : Shrunk s s' := by
  unfold State.dropData at hd
  split at hd
  · cases hd
    exact Shrunk.refl s
  rename_i a hl
  split at hd
  · exact removeAnn_shrunk hd
  simp only [] at hd
  split at hd
  · exact removeAnn_shrunk hd
  · cases hd
    exact dropOne_shrunk hl sh dh

theorem rmDataH_shrunk (s s' : State) (sh dh : Nat) (strict : Bool)
    (h : s.rmDataH sh dh strict = some s') : Shrunk s s' := by
  intro hi
  unfold State.rmDataH at h
  simp only [] at h
  split at h
  · cases h
  rename_i s1 h1
  obtain ⟨i1, b1⟩ := Shrunk.fold (fun s a s' => dropData_shrunk s s' sh dh strict a) _ s s1 h1 hi
  split at h
  · cases h
  rename_i s2 h2
  have b := removeAll_swept i1 h2
  repeat' split at h
  all_goals cases h
  exact b.filter_key b1 i1 _ _

theorem rmData_shrunk (s : State) (set : String) (d : Ref) (strict : Bool) : Shrunk s (s.rmData set d strict).2 := by
  unfold State.rmData
  split
  · exact Shrunk.refl s
  split
  · exact Shrunk.refl s
  split
  · exact Shrunk.refl s
  split
  · rename_i s1 h1; exact rmDataH_shrunk s s1 _ _ strict h1
  · exact Shrunk.refl s

theorem rmKey_shrunk (s : State) (set key : String) (strict : Bool) : Shrunk s (s.rmKey set key strict).2 := by
  intro hi
  unfold State.rmKey
  split
  · exact Shrunk.refl s hi
  rename_i sh _
  split
  · exact Shrunk.refl s hi
  split
  · exact Shrunk.refl s hi
  rename_i kh _
  simp only []
  split
  · exact Shrunk.refl s hi
  rename_i s1 h1
  obtain ⟨i1, b1⟩ := Shrunk.fold (fun s a s' => rmDataH_shrunk s s' sh a strict) _ s s1 h1 hi
  split
  · exact ⟨i1, b1⟩
  rename_i m1 _
  obtain ⟨i2, b2⟩ := Shrunk.of_frame (s := s1)
    (s' := { s1 with sets := setAt s1.sets sh (some { m1 with keys := setAt m1.keys kh none }) }) rfl rfl i1
  split
  · exact ⟨i2, b1.trans b2⟩
  rename_i s3 h3
  have b := removeAll_swept i2 h3
  exact b.filter_key (b1.trans b2) i2 _ _

end Stam
