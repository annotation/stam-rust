import StamModel.PosIndex
import StamModel.Lemmas.Utf8
/-
  The position index is right when, key by key, the entry or its absence is (`EntryOK`, `Tracks`): an `upsert`
  needs a look at the one entry it writes.
-/
namespace Stam.PI

def keys (m : Index) : List Nat := m.map (·.1)

def Asc (m : Index) : Prop := (keys m).Pairwise (· < ·)

theorem upsert_cons_lt {k k' : Nat} (v : Item) (r : Index) (f : Option Item → Item) (h : k < k') :
    upsert ((k', v) :: r) k f = (k, f none) :: (k', v) :: r := by
  rw [upsert, if_pos h]

theorem upsert_cons_eq (k : Nat) (v : Item) (r : Index) (f : Option Item → Item) :
    upsert ((k, v) :: r) k f = (k, f (some v)) :: r := by
  rw [upsert, if_neg (Nat.lt_irrefl k), if_pos rfl]

theorem upsert_cons_gt {k k' : Nat} (v : Item) (r : Index) (f : Option Item → Item) (h : k' < k) :
    upsert ((k', v) :: r) k f = (k', v) :: upsert r k f := by
  rw [upsert, if_neg (Nat.lt_asymm h), if_neg (Nat.ne_of_gt h)]

abbrev Sel := Nat × Nat × Nat     -- (begin, end, handle)

structure Inv (ws : List Nat) (sels : List Sel) (m : Index) : Prop where
  asc : Asc m
  /-- every entry lies in the text and carries the byte position of its code point -/
  entries : ∀ k it, (k, it) ∈ m → k ≤ ws.length ∧ it.bytepos = prefixB ws k
  /-- an entry lists exactly the text selections that begin / end at it -/
  content : ∀ k it, lookup m k = some it →
    (∀ p, p ∈ it.b2e ↔ (k, p.1, p.2) ∈ sels) ∧ (∀ p, p ∈ it.e2b ↔ (p.1, k, p.2) ∈ sels)
  /-- both ends of every text selection have an entry -/
  present : ∀ b e h, (b, e, h) ∈ sels → (lookup m b).isSome ∧ (lookup m e).isSome

/-- the entry at `k`, or its absence, is right for what begins there in `B` and ends there in `E`: two lists, because
between the two writes of `insertSel` only `B` has the new selection -/
structure EntryOK (ws : List Nat) (B E : List Sel) (k : Nat) (o : Option Item) : Prop where
  pos : ∀ it, o = some it → k ≤ ws.length ∧ it.bytepos = prefixB ws k
  b2e : ∀ p, (∃ it, o = some it ∧ p ∈ it.b2e) ↔ (k, p.1, p.2) ∈ B
  e2b : ∀ p, (∃ it, o = some it ∧ p ∈ it.e2b) ↔ (p.1, k, p.2) ∈ E

/-- `Inv` key by key -/
structure Tracks (ws : List Nat) (B E : List Sel) (m : Index) : Prop where
  asc : Asc m
  entry : ∀ k, EntryOK ws B E k (lookup m k)

def hasRange (acc : List Sel) (b e : Nat) : Bool := acc.any (fun s => s.1 == b && s.2.1 == e)

def acceptStep (ws : List Nat) (acc : List Sel) : Op → List Sel
  | .sel b e => if b ≤ e ∧ e ≤ ws.length ∧ hasRange acc b e = false then acc ++ [(b, e, acc.length)] else acc
  | .milestones _ => acc

/-- the text selections a history inserts (those that lie in the text and are not there yet), with their handles -/
def accepted (ws : List Nat) (ops : List Op) : List Sel :=
  ops.foldl (fun acc op => match op with
    | .sel b e => if b ≤ e ∧ e ≤ ws.length ∧ hasRange acc b e = false then acc ++ [(b, e, acc.length)] else acc
    | .milestones _ => acc) []

/-- the definition of `accepted` writes `acceptStep` out -/
theorem accepted_eq (ws : List Nat) (ops : List Op) : accepted ws ops = ops.foldl (acceptStep ws) [] := rfl

def GoodT (p : List Nat × St) : Prop := WidthsWF p.1 ∧ ∃ sels, Inv p.1 sels p.2.idx ∧ p.2.nsel = sels.length

end Stam.PI
