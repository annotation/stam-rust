import StamModel.Lemmas.StamqlText
import StamModel.Lemmas.StamqlLex
/-
  The constraint layer of STAMQL (C09): what `get_arg` reads off printed words, and a printed constraint as
  `Constraint::parse` first sees it.
-/
namespace Stam.QL
open Stam.QL.C09

/-- no quote, no delimiter (so no space either) -/
def Plain (w : Str) : Prop := ∀ c ∈ w, c ≠ '"' ∧ isDelim c = false

theorem getArgAux_word (isDt : Str → Bool) (all : Str) (d : Char) (rest : Str) (hd : isDelim d = true) :
    ∀ (w : Str) (i : Nat) (esc : Bool) (b : Nat), Plain w →
      getArgAux isDt all (w ++ d :: rest) i false esc b =
        some (all.take (i + w.length), trimStart (d :: rest), argType isDt (all.take (i + w.length)) false) := by
  intro w
  induction w with
  | nil =>
    intro i esc b _
    have hq : d ≠ '"' := by
      rintro rfl
      exact absurd hd (by decide)
    simp only [List.nil_append, getArgAux, hq, false_and, ↓reduceIte, Bool.not_eq_true, Bool.false_eq_true, not_false_eq_true,
      true_and, hd, List.length_nil, Nat.add_zero]
    by_cases hor : startsWith (d :: rest) [' ', 'O', 'R', ' '] = true
    · have hsp : d = ' ' := by
        simp [startsWith, List.isPrefixOf] at hor
        exact hor.1.symm
      subst hsp
      simp [hor, trimStart_space]
    · simp [hor]
  | cons c cs ih =>
    intro i esc b hp
    have hc := hp c (by simp)
    have hp' : Plain cs := fun x hx => hp x (by simp [hx])
    have hsp : c ≠ ' ' := by intro h; subst h; simp [isDelim] at hc
    have hor : startsWith (c :: (cs ++ d :: rest)) [' ', 'O', 'R', ' '] = false := by
      simp [startsWith, List.isPrefixOf, Ne.symm hsp]
    simp only [List.cons_append, getArgAux, hc.1, false_and, ↓reduceIte, Bool.not_eq_true, Bool.false_eq_true, not_false_eq_true,
      true_and, hor, hc.2]
    rw [ih (i + 1) _ b hp']
    have : i + 1 + cs.length = i + (cs.length + 1) := by omega
    simp [this]

theorem getArg_word (isDt : Str → Bool) (w : Str) (d : Char) (rest : Str) (hd : isDelim d = true) (hp : Plain w) :
    getArg isDt (w ++ d :: rest) = some (w, trimStart (d :: rest), argType isDt w false) := by
  unfold getArg
  rw [getArgAux_word isDt _ d rest hd w 0 false 0 hp]
  simp

theorem arg_word (isDt : Str → Bool) (w : Str) (d : Char) (rest : Str) (hd : isDelim d = true) (hp : Plain w) :
    arg isDt (w ++ d :: rest) = .ok (w, trimStart (d :: rest), argType isDt w false) := by
  simp [arg, getArg_word isDt w d rest hd hp]

theorem arg_quoted (isDt : Str → Bool) (v rest : Str) (hq : '"' ∉ v) (hb : '\\' ∉ v) :
    arg isDt (quote v ++ rest) = .ok (v, trimStart rest, argType isDt v true) := by
  have := getArg_in_quotes isDt v rest hq hb
  simp only [quote, List.cons_append, List.append_assoc] at this ⊢
  simp [arg, this]

/-- an unquoted word that `closed` does not take for the end of a clause -/
def OpenWord (w : Str) : Prop := Plain w ∧ ∃ h r, w = h :: r ∧ isWs h = false ∧ h ≠ ';' ∧ h ≠ ']' ∧ h ≠ 'O'

theorem OpenWord.starts {w : Str} (hw : OpenWord w) : Starts w := by
  obtain ⟨_, h, r, rfl, hws, _⟩ := hw
  exact ⟨h, r, rfl, hws⟩

theorem closed_cons (h : Char) (x : Str) (h1 : h ≠ ';') (h2 : h ≠ ']') (h3 : h ≠ 'O') : closed (h :: x) = false := by
  simp [closed, startsWith, List.isPrefixOf, Ne.symm h1, Ne.symm h2, Ne.symm h3]

theorem OpenWord.arg {w : Str} (hw : OpenWord w) (isDt : Str → Bool) (rest : Str) :
    trimStart (w ++ ';' :: rest) = w ++ ';' :: rest ∧ closed (w ++ ';' :: rest) = false ∧
      arg isDt (w ++ ';' :: rest) = .ok (w, ';' :: rest, argType isDt w false) := by
  refine ⟨trimStart_starts _ hw.starts, ?_, ?_⟩
  · obtain ⟨_, h, r, rfl, _, h1, h2, h3⟩ := hw
    exact closed_cons h _ h1 h2 h3
  · rw [arg_word isDt _ ';' rest (by decide) hw.1, trimStart_cons_nonws (by decide)]

theorem digit_plain (c : Char) (h : c.isDigit = true) :
    (c ≠ '"' ∧ isDelim c = false) ∧ isWs c = false ∧ c ≠ ';' ∧ c ≠ ']' ∧ c ≠ 'O' := by
  have hn : 48 ≤ c.toNat ∧ c.toNat ≤ 57 := by
    simp only [Char.isDigit, Bool.and_eq_true, decide_eq_true_eq] at h
    exact ⟨h.1, h.2⟩
  have ne : ∀ d : Char, d.isDigit = false → c ≠ d := by
    intro d hd e
    rw [e, hd] at h
    cases h
  refine ⟨⟨ne _ (by decide), ?_⟩, ?_, ne _ (by decide), ne _ (by decide), ne _ (by decide)⟩
  · simp only [isDelim, decide_eq_false_iff_not, not_or]
    exact ⟨ne _ (by decide), ne _ (by decide), ne _ (by decide), ne _ (by decide), ne _ (by decide)⟩
  · simp only [isWs, decide_eq_false_iff_not]
    omega

theorem intLit_open (s : Str) (h : IntLit s) : OpenWord s := by
  obtain ⟨ds, hne, hd, hs⟩ := h
  obtain ⟨c, r, rfl⟩ := List.exists_cons_of_ne_nil hne
  have hp : Plain (c :: r) := fun x hx => (digit_plain x (hd x hx)).1
  rcases hs with rfl | rfl
  · exact ⟨hp, c, r, rfl, (digit_plain c (hd c (by simp))).2⟩
  · refine ⟨?_, '-', _, rfl, by decide⟩
    intro x hx
    rcases List.mem_cons.mp hx with rfl | hx
    · decide
    · exact hp x hx

/-- what `Constraint::parse` needs of the first word of a printed constraint -/
def isKeyword (kw : Str) : Bool :=
  kw.all (fun c => !isSplit c) &&
    match kw with
    | c :: _ => !isWs c && c != '@'
    | [] => false

/-- Stated for any function `f` of the text, with the conclusion as a continuation: the caller's goal is generalised
over the text, so that the four facts rewrite a variable and not the reassociated printed term. -/
theorem keyword_text {β} {f : Str → β} {o : β} {kw : Str} {n : Nat} (hk : isKeyword kw = true) (hn : kw.length = n)
    {P Z rest : Str} (ht : P ++ ';' :: rest = kw ++ Z) (hZ : SplitStart Z) (hr : NoTrailWs rest)
    (h : ∀ t, trim t = t → t.head? ≠ some '@' → firstWord t = kw → t.drop n = Z → f t = o) : f (P ++ ';' :: rest) = o := by
  cases kw with
  | nil => cases hk
  | cons c k =>
    obtain ⟨hw, hc, hat⟩ : Word (c :: k) ∧ isWs c = false ∧ c ≠ '@' := by simpa [isKeyword, Word] using hk
    obtain ⟨hfw, hd⟩ := word_text hw hn ht hZ
    have hr := noTrail_append_cons P rest ';' (by decide) hr
    rw [ht] at hr hfw hd ⊢
    exact h _ (trim_id c _ hc hr) (by simpa using hat) hfw hd

theorem parseCnAll_of_more {parseI : Str → Option Int} {parseF isDt regexOk : Str → Bool} {parseNat : Str → Option Nat}
    {kw : Str} {n : Nat} (hk : isKeyword kw = true) (hn : kw.length = n) {P Z rest : Str} (ht : P ++ ';' :: rest = kw ++ Z)
    (hZ : SplitStart Z) (hr : NoTrailWs rest) {o : Out (Cn × Str)}
    (h : ∀ t, t.drop n = Z → parseCnMore parseI parseF isDt parseNat kw t = some o) :
    parseCnAll parseI parseF isDt regexOk parseNat (P ++ ';' :: rest) = o := by
  refine keyword_text hk hn ht hZ hr fun t htr hat hfw hd => ?_
  unfold parseCnAll
  simp only [htr, hfw, if_neg hat, h t hd]

theorem plain_keywords : ∀ kw ∈ [kAS, kMETADATA, kRECURSIVE, kNOCASE, kREGEX, kNONE], Plain kw := by
  unfold Plain
  decide +kernel

theorem splitStart_qualStr (q : Qual) (Z : Str) : SplitStart (qualStr q ++ ' ' :: Z) := by
  cases q <;> exact splitStart_space

theorem arg_keyword (isDt : Str → Bool) {kw : Str} (hp : Plain kw) (hs : Starts kw) (A : Str) :
    arg isDt (trimStart (kw ++ ' ' :: A)) = .ok (kw, trimStart A, argType isDt kw false) := by
  rw [trimStart_starts kw hs, arg_word isDt kw ' ' A (by decide) hp, trimStart_space]

theorem qualifiers_printed (isDt : Str → Bool) (q : Qual) (rec : Bool) (A x r : Str) {ty : ArgType}
    (hA : arg isDt (trimStart A) = .ok (x, r, ty)) (h1 : x ≠ kAS) (h2 : x ≠ kRECURSIVE) :
    ∃ a0 r0 ty0, arg isDt (trimStart (qualStr q ++ (if rec then ' ' :: kRECURSIVE else []) ++ ' ' :: A)) = .ok (a0, r0, ty0) ∧
      parseQualifiers isDt a0 r0 = .ok (x, r, q, rec) := by
  have hR := arg_keyword isDt (plain_keywords kRECURSIVE (by decide)) ⟨_, _, rfl, by decide⟩ A
  have hM (B) := arg_keyword isDt (plain_keywords kMETADATA (by decide)) ⟨_, _, rfl, by decide⟩ B
  have hAS (B) := arg_keyword isDt (plain_keywords kAS (by decide)) ⟨_, _, rfl, by decide⟩ B
  have hT (B) : trimStart (' ' :: B) = trimStart B := trimStart_space B
  -- each `▸` below typechecks up to unfolding `qualStr`
  cases q <;> cases rec
  · refine ⟨_, _, _, (hT A).symm ▸ hA, ?_⟩
    unfold parseQualifiers
    rw [if_neg h1, if_neg h2]
  · refine ⟨_, _, _, (hT (kRECURSIVE ++ ' ' :: A)).symm ▸ hR, ?_⟩
    unfold parseQualifiers
    rw [if_neg (by decide), if_pos rfl, hA]
  · refine ⟨_, _, _, (hT (kAS ++ ' ' :: (kMETADATA ++ ' ' :: A))).symm ▸ hAS _, ?_⟩
    unfold parseQualifiers
    rw [if_pos rfl, hM]
    dsimp only
    rw [if_pos (.inr rfl), hA]
    dsimp only
    rw [if_neg h2]
  · refine ⟨_, _, _, (hT (kAS ++ ' ' :: (kMETADATA ++ ' ' :: (kRECURSIVE ++ ' ' :: A)))).symm ▸ hAS _, ?_⟩
    unfold parseQualifiers
    rw [if_pos rfl, hM]
    dsimp only
    rw [if_pos (.inr rfl), hR]
    dsimp only
    rw [if_pos rfl, hA]

end Stam.QL
