import StamModel.Stamql
import StamModel.Lemmas.Out
/-
  The lexical layer of STAMQL (C09) by cases: what `get_arg_type` answers on a quoted and on an unquoted argument, and
  which arguments can make `parse_dataoperator` panic. At the end `C09.IntLit`, the integer literals, for the lemma files above.
-/
namespace Stam.QL

theorem scanType_of_false (s : Str) : ∀ (fp : Bool) (prev : Option Char) (r : Bool × Bool),
    scanType s false fp prev = some r → r.1 = false := by
  induction s with
  | nil => intro fp prev r h; simp [scanType] at h; rw [← h]
  | cons c cs ih =>
    intro fp prev r h
    unfold scanType at h
    split at h
    · cases h
    · simp only [Bool.false_eq_true, false_and, ↓reduceIte, ite_self] at h
      exact ih _ _ r h

theorem argType_quoted (isDt : Str → Bool) (s : Str) :
    argType isDt s true = if s.isEmpty ∨ (scanType s false false none).isSome then .string else .list := by
  unfold argType
  by_cases he : s.isEmpty = true
  · rw [if_pos he, if_pos (.inl he)]
  · rw [if_neg he, Bool.not_true]
    cases h : scanType s false false none with
    | none => exact (if_neg (fun hc => hc.elim he nofun)).symm
    | some r =>
      obtain ⟨n, f⟩ := r
      obtain rfl : n = false := scanType_of_false s false none _ h
      exact (if_pos (.inr rfl)).symm

theorem argType_spelling (isDt : Str → Bool) (s : Str) (q : Bool) :
    (argType isDt s q = .bool → s = ['t', 'r', 'u', 'e'] ∨ s = ['f', 'a', 'l', 's', 'e']) ∧
      (argType isDt s q = .datetime → isDt s = true) := by
  unfold argType
  -- `cases` and `by_cases`, not `split`: on this term, with its character literals, `split` is slow
  cases s.isEmpty
  case true => exact ⟨nofun, nofun⟩
  cases scanType s (!q) false none with
  | none => cases q <;> exact ⟨nofun, nofun⟩
  | some r =>
    obtain ⟨n, f⟩ := r
    cases n
    case true => cases f <;> exact ⟨nofun, nofun⟩
    cases q
    case true => exact ⟨nofun, nofun⟩
    dsimp only
    by_cases h1 : s = ['n', 'u', 'l', 'l']
    · rw [if_pos h1]
      exact ⟨nofun, nofun⟩
    by_cases h2 : s = ['a', 'n', 'y']
    · rw [if_neg h1, if_pos h2]
      exact ⟨nofun, nofun⟩
    by_cases hb : s = ['t', 'r', 'u', 'e'] ∨ s = ['f', 'a', 'l', 's', 'e']
    · rw [if_neg h1, if_neg h2, if_pos hb]
      exact ⟨fun _ => hb, nofun⟩
    by_cases hd : isDt s = true
    · rw [if_neg h1, if_neg h2, if_neg hb, if_pos hd]
      exact ⟨nofun, fun _ => hd⟩
    · rw [if_neg h1, if_neg h2, if_neg hb, if_neg hd]
      exact ⟨nofun, nofun⟩

theorem parseOp_isPanic (parseI : Str → Option Int) (parseF : Str → Bool) (isDt : Str → Bool)
    (opstr value : Str) (ty : ArgType)
    (hb : ty = .bool → value = ['t', 'r', 'u', 'e'] ∨ value = ['f', 'a', 'l', 's', 'e'])
    (hd : ty = .datetime → isDt value = true) :
    (parseOp parseI parseF isDt opstr value ty).isPanic = false := by
  unfold parseOp
  extract_lets int flt dt bool neg eqv
  have hint (k) : (int k).isPanic = false := by
    unfold int
    cases parseI value <;> rfl
  have hflt (k) : (flt k).isPanic = false := by
    unfold flt
    cases parseF value <;> rfl
  have hdt (h : ty = .datetime) (k) : (dt k).isPanic = false := by
    unfold dt
    rw [if_pos (hd h)]
    rfl
  have hbool (h : ty = .bool) : bool.isPanic = false := by
    unfold bool
    rcases hb h with rfl | rfl <;> rfl
  have hneg (o) : (neg o).isPanic = o.isPanic := Out.isPanic_map _ o
  have heqv : eqv.isPanic = false := by
    unfold eqv
    cases ty <;> first | rfl | exact hint _ | exact hflt _ | exact hbool rfl | exact hdt rfl _
  -- from here the six local functions are known by these facts alone
  clear_value int flt dt bool neg eqv
  cases ty <;> simp only [apply_ite Out.isPanic, Out.isPanic_err, hint, hflt, hdt, heqv, hneg, ite_self]

theorem getArgAux_in_quotes (isDt : Str → Bool) (all : Str) (rest : Str) :
    ∀ (v : Str) (i b : Nat), ('"' ∉ v) → ('\\' ∉ v) →
      getArgAux isDt all (v ++ '"' :: rest) i true false b =
        some ((all.take (i + v.length)).drop b, trimStart rest, argType isDt ((all.take (i + v.length)).drop b) true) := by
  intro v
  induction v with
  | nil =>
    intro i b _ _
    simp [getArgAux]
  | cons c cs ih =>
    intro i b hq hb
    have hc1 : c ≠ '"' := fun h => hq (by simp [h])
    have hc2 : c ≠ '\\' := fun h => hb (by simp [h])
    have hq' : '"' ∉ cs := fun h => hq (by simp [h])
    have hb' : '\\' ∉ cs := fun h => hb (by simp [h])
    simp only [List.cons_append, getArgAux, hc1, false_and, ↓reduceIte, Bool.not_eq_true, not_true_eq_false, hc2,
      decide_false]
    rw [ih (i + 1) b hq' hb']
    have : i + 1 + cs.length = i + (cs.length + 1) := by omega
    simp [this]

theorem getArg_in_quotes (isDt : Str → Bool) (v rest : Str) (hq : '"' ∉ v) (hb : '\\' ∉ v) :
    getArg isDt ('"' :: v ++ '"' :: rest) = some (v, trimStart rest, argType isDt v true) := by
  unfold getArg
  simp only [List.cons_append, getArgAux, Bool.not_eq_true, Bool.not_false, ↓reduceIte, and_self, and_false,
    not_true_eq_false, false_and]
  have h := getArgAux_in_quotes isDt ('"' :: (v ++ '"' :: rest)) rest v 1 1 hq hb
  simp only [Nat.zero_add] at h ⊢
  have e : (List.take (1 + v.length) ('"' :: (v ++ '"' :: rest))).drop 1 = v := by
    rw [Nat.add_comm 1, List.take_succ_cons, List.drop_succ_cons, List.drop_zero, List.take_left']
    rfl
  rw [e] at h
  simpa using h

namespace C09

/-- integer literals as `isize::to_string` writes them: an optional minus sign and at least one digit -/
def IntLit (s : Str) : Prop := ∃ ds : Str, ds ≠ [] ∧ (∀ c ∈ ds, c.isDigit = true) ∧ (s = ds ∨ s = '-' :: ds)

end C09

end Stam.QL
