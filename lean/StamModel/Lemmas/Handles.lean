import StamModel.Collections
import StamModel.Lemmas.List
/-
  Both sorted fast paths of `Handles::union` / `intersection` search ever shorter suffixes of the other collection;
  `fast_step` is the bookkeeping they share.
-/
namespace Stam.Coll

theorem lowerBound_cons_lt (a x : Nat) (r : List Nat) (h : a < x) : lowerBound (a :: r) x = lowerBound r x + 1 := by
  simp [lowerBound, h]

theorem lowerBound_cons_ge (a x : Nat) (r : List Nat) (h : ¬ a < x) : lowerBound (a :: r) x = 0 := by
  simp [lowerBound, h]

theorem bsearch_cons_lt (a x : Nat) (r : List Nat) (h : a < x) :
    bsearch (a :: r) x = ((bsearch r x).1, (bsearch r x).2 + 1) := by
  simp [bsearch, lowerBound_cons_lt a x r h]

theorem bsearch_cons_ge (a x : Nat) (r : List Nat) (h : ¬ a < x) : bsearch (a :: r) x = (a == x, 0) := by
  simp [bsearch, lowerBound_cons_ge a x r h]

/-- second part: skipping to the returned index (past the item, when found) drops nothing above `x` -/
theorem bsearch_spec (x : Nat) : ∀ (s : List Nat), StrictSorted s →
    ((bsearch s x).1 = true ↔ x ∈ s) ∧
    ∀ z ∈ s, x < z → z ∈ s.drop ((bsearch s x).2 + (bsearch s x).1.toNat) := by
  intro s
  induction s with
  | nil => intro _; simp [bsearch, lowerBound]
  | cons a r ih =>
    intro hs
    obtain ⟨har, hr⟩ := List.pairwise_cons.mp hs
    by_cases hax : a < x
    · obtain ⟨ih1, ih2⟩ := ih hr
      rw [bsearch_cons_lt a x r hax]
      refine ⟨?_, ?_⟩
      · rw [ih1, List.mem_cons]
        exact ⟨Or.inr, fun h => h.resolve_left (by omega)⟩
      intro z hz hxz
      rw [Nat.add_right_comm, List.drop_succ_cons]
      exact ih2 z ((List.mem_cons.mp hz).resolve_left (by omega)) hxz
    · rw [bsearch_cons_ge a x r hax]
      refine ⟨?_, ?_⟩
      · rw [beq_iff_eq, List.mem_cons]
        refine ⟨fun h => Or.inl h.symm, fun h => h.elim Eq.symm (fun h => ?_)⟩
        have := har x h
        omega
      · intro z hz hxz
        cases hax' : a == x
        · exact hz
        · rw [beq_iff_eq] at hax'
          exact (List.mem_cons.mp hz).resolve_left (by omega)

/-- As long as no item still to come lies in the dropped part of `orig`, a search in `orig.drop offset` finds its item
iff it occurs in `orig`, and the new offset drops none of the later items. `found.toNat` is the `+ 1` of the loops'
`Ok` branch. -/
theorem fast_step (orig : List Nat) (ho : StrictSorted orig) (offset x : Nat) (rest : List Nat)
    (hr : StrictSorted (x :: rest)) (hinv : ∀ z ∈ x :: rest, z ∈ orig → z ∈ orig.drop offset) (found : Bool) (idx : Nat)
    (hb : bsearch (orig.drop offset) x = (found, idx)) :
    (found = true ↔ x ∈ orig) ∧
    ∀ z ∈ rest, z ∈ orig → z ∈ orig.drop (offset + idx + found.toNat) := by
  obtain ⟨h1, h2⟩ := bsearch_spec x _ (List.Pairwise.sublist (List.drop_sublist offset orig) ho)
  rw [hb] at h1 h2
  refine ⟨h1.trans ⟨List.mem_of_mem_drop, hinv x (List.mem_cons_self ..)⟩, fun z hz hzo => ?_⟩
  rw [Nat.add_assoc, ← List.drop_drop]
  exact h2 z (hinv z (List.mem_cons_of_mem _ hz) hzo) ((List.pairwise_cons.mp hr).1 z hz)

theorem unionFast_spec (orig : List Nat) (ho : StrictSorted orig) :
    ∀ (rest : List Nat) (offset : Nat) (app : List Nat), StrictSorted rest →
      (∀ z ∈ rest, z ∈ orig → z ∈ orig.drop offset) → (∀ z ∈ rest, z ∉ app) →
      unionFast orig offset app rest = app ++ rest.filter (fun x => !orig.contains x) := by
  intro rest
  induction rest with
  | nil => intro offset app _ _ _; simp [unionFast]
  | cons x rest ih =>
    intro offset app hr hinv happ
    obtain ⟨hxr, hrr⟩ := List.pairwise_cons.mp hr
    have happ' : ∀ z ∈ rest, z ∉ app := fun z hz => happ z (List.mem_cons_of_mem _ hz)
    unfold unionFast
    cases hb : bsearch (orig.drop offset) x with
    | mk found idx =>
      obtain ⟨hf, hnext⟩ := fast_step orig ho offset x rest hr hinv found idx hb
      cases found with
      | true =>
        have hin : x ∈ orig := hf.mp rfl
        simp only [↓reduceIte]
        rw [ih (offset + idx + 1) app hrr hnext happ']
        simp [hin]
      | false =>
        have hnin : x ∉ orig := fun h => Bool.false_ne_true (hf.mpr h)
        have hlast : app.getLast? ≠ some x := fun h => happ x (List.mem_cons_self ..) (List.mem_of_getLast? h)
        simp only [Bool.false_eq_true, ↓reduceIte, hlast]
        rw [ih (offset + idx) (app ++ [x]) hrr hnext ?_]
        · simp [hnin]
        · intro z hz hza
          rcases List.mem_append.mp hza with h | h
          · exact happ' z hz h
          · exact Nat.lt_irrefl x (List.mem_singleton.mp h ▸ hxr z hz)

theorem interFast_spec (other : List Nat) (ho : StrictSorted other) :
    ∀ (rest : List Nat) (offset : Nat), StrictSorted rest →
      (∀ z ∈ rest, z ∈ other → z ∈ other.drop offset) →
      interFast other offset rest = rest.filter (fun x => other.contains x) := by
  intro rest
  induction rest with
  | nil => intro offset _ _; simp [interFast]
  | cons x rest ih =>
    intro offset hr hinv
    unfold interFast
    cases hb : bsearch (other.drop offset) x with
    | mk found idx =>
      obtain ⟨hf, hnext⟩ := fast_step other ho offset x rest hr hinv found idx hb
      cases found with
      | true =>
        have hin : x ∈ other := hf.mp rfl
        simp only [↓reduceIte]
        rw [ih (offset + idx + 1) (List.pairwise_cons.mp hr).2 hnext]
        simp [hin]
      | false =>
        have hnin : x ∉ other := fun h => Bool.false_ne_true (hf.mpr h)
        simp only [Bool.false_eq_true, ↓reduceIte]
        rw [ih (offset + idx) (List.pairwise_cons.mp hr).2 hnext]
        simp [hnin]

theorem unionSlow_spec (orig : List Nat) : ∀ (rest app : List Nat), rest.Nodup → (∀ z ∈ rest, z ∉ app) →
    unionSlow orig app rest = app ++ rest.filter (fun x => !orig.contains x) := by
  intro rest
  induction rest with
  | nil => intro app _ _; simp [unionSlow]
  | cons x rest ih =>
    intro app hnd happ
    obtain ⟨hx, hr⟩ := List.nodup_cons.mp hnd
    have hxa : x ∉ app := happ x (List.mem_cons_self ..)
    have happ' : ∀ z ∈ rest, z ∉ app := fun z hz => happ z (List.mem_cons_of_mem _ hz)
    unfold unionSlow
    by_cases hin : x ∈ orig
    · simp only [List.contains_eq_mem, hin, decide_true, true_or, ↓reduceIte]
      rw [ih app hr happ']
      simp [hin]
    · simp only [List.contains_eq_mem, hin, hxa, decide_false, Bool.false_eq_true, or_self, ↓reduceIte]
      rw [ih (app ++ [x]) hr ?_]
      · simp [hin]
      · intro z hz hza
        rcases List.mem_append.mp hza with h | h
        · exact happ' z hz h
        · exact hx (List.mem_singleton.mp h ▸ hz)

theorem mem_insertSorted (x y : Nat) (l : List Nat) : y ∈ insertSorted x l ↔ y = x ∨ y ∈ l := by
  induction l with
  | nil => simp [insertSorted]
  | cons a r ih =>
    unfold insertSorted
    split
    · simp
    · simp [ih, or_left_comm]

theorem strictSorted_insertSorted (x : Nat) (l : List Nat) (hl : StrictSorted l) (hx : x ∉ l) :
    StrictSorted (insertSorted x l) := by
  induction l with
  | nil => simp [insertSorted, StrictSorted]
  | cons a r ih =>
    have hr : StrictSorted r := (List.pairwise_cons.mp hl).2
    have ha : ∀ y ∈ r, a < y := (List.pairwise_cons.mp hl).1
    have hxa : x ≠ a := fun h => hx (by simp [h])
    have hxr : x ∉ r := fun h => hx (by simp [h])
    unfold insertSorted
    split
    · rename_i hle
      apply List.pairwise_cons.mpr
      refine ⟨?_, hl⟩
      intro y hy
      rcases List.mem_cons.mp hy with rfl | hy
      · omega
      · exact Nat.lt_of_le_of_lt hle (ha y hy)
    · rename_i hle
      apply List.pairwise_cons.mpr
      refine ⟨?_, ih hr hxr⟩
      intro y hy
      rcases (mem_insertSorted x y r).mp hy with rfl | hy
      · omega
      · exact ha y hy

theorem sortList_spec (l : List Nat) (hl : l.Nodup) : StrictSorted (sortList l) ∧ ∀ y, y ∈ sortList l ↔ y ∈ l := by
  induction l with
  | nil => simp [sortList, StrictSorted]
  | cons a r ih =>
    have hr : r.Nodup := (List.nodup_cons.mp hl).2
    have har : a ∉ r := (List.nodup_cons.mp hl).1
    obtain ⟨h1, h2⟩ := ih hr
    have hs : sortList (a :: r) = insertSorted a (sortList r) := rfl
    rw [hs]
    refine ⟨strictSorted_insertSorted a _ h1 (fun h => har ((h2 a).mp h)), ?_⟩
    intro y
    rw [mem_insertSorted, h2, List.mem_cons]

/-- `Vocab.insertSorted_eq_split` is the same split, written with `takeWhile` / `dropWhile` -/
theorem insert_at_lowerBound (x : Nat) (l : List Nat) :
    l.take (lowerBound l x) ++ x :: l.drop (lowerBound l x) = insertSorted x l := by
  induction l with
  | nil => simp [lowerBound, insertSorted]
  | cons a r ih =>
    by_cases hax : a < x
    · have : ¬ x ≤ a := Nat.not_le.2 hax
      rw [lowerBound_cons_lt a x r hax]
      simp [insertSorted, this, ih]
    · have : x ≤ a := Nat.le_of_not_lt hax
      rw [lowerBound_cons_ge a x r hax]
      simp [insertSorted, this]

/-- the flag tells the truth and there are no duplicates -/
def Truthful (h : H) : Prop := (h.sorted = true → StrictSorted h.arr) ∧ h.arr.Nodup

theorem add_spec (h : H) (x : Nat) (hh : Truthful h) :
    Truthful (add h x) ∧ (∀ y, y ∈ (add h x).arr ↔ y = x ∨ y ∈ h.arr) ∧ (add h x).sorted = h.sorted := by
  -- an item that is there already changes nothing, on both paths
  have hsame : x ∈ h.arr → ∀ y, y ∈ h.arr ↔ y = x ∨ y ∈ h.arr :=
    fun hin y => ⟨Or.inr, fun h' => h'.elim (· ▸ hin) id⟩
  unfold add
  cases hs : h.sorted with
  | true =>
    have hsrt := hh.1 hs
    have hf : (h.arr[lowerBound h.arr x]? == some x) = true ↔ x ∈ h.arr := (bsearch_spec x h.arr hsrt).1
    simp only [↓reduceIte, bsearch]
    by_cases hin : x ∈ h.arr
    · simp only [hf.mpr hin, ↓reduceIte]
      exact ⟨hh, hsame hin, hs⟩
    · simp only [Bool.eq_false_iff.mpr (mt hf.mp hin), Bool.false_eq_true, ↓reduceIte, insert_at_lowerBound]
      have hss := strictSorted_insertSorted x h.arr hsrt hin
      exact ⟨⟨fun _ => hss, strictSorted_nodup _ hss⟩, fun y => mem_insertSorted x y h.arr, trivial⟩
  | false =>
    simp only [Bool.false_eq_true, ↓reduceIte]
    by_cases hin : x ∈ h.arr
    · rw [if_pos (List.contains_iff_mem.mpr hin)]
      exact ⟨hh, hsame hin, hs⟩
    · rw [if_neg (mt List.contains_iff_mem.mp hin)]
      refine ⟨⟨nofun, List.nodup_append.mpr ⟨hh.2, by simp, ?_⟩⟩, fun y => by simp [or_comm], rfl⟩
      intro a ha b hb hab
      exact hin (List.mem_singleton.mp hb ▸ hab ▸ ha)

theorem isSubset_iff (a b : List Nat) : isSubset a b = true ↔ ∀ x ∈ a, x ∈ b := by
  simp [isSubset]

theorem filter_contains_of_subset {a b : List Nat} (h : ∀ x ∈ a, x ∈ b) : a.filter (fun x => b.contains x) = a :=
  List.filter_eq_self.mpr (fun x hx => List.contains_iff_mem.mpr (h x hx))

theorem noDescent_sorted : ∀ (l : List Nat), noDescent l = true → l.Pairwise (· ≤ ·) := by
  intro l
  induction l with
  | nil => intro _; exact List.Pairwise.nil
  | cons a r ih =>
    intro h
    cases r with
    | nil => simp
    | cons b r' =>
      unfold noDescent at h
      split at h
      · cases h
      · rename_i hab
        have hr := ih h
        apply List.pairwise_cons.mpr
        refine ⟨?_, hr⟩
        intro y hy
        rcases List.mem_cons.mp hy with rfl | hy
        · omega
        · exact Nat.le_trans (Nat.le_of_not_gt hab) ((List.pairwise_cons.mp hr).1 y hy)

end Stam.Coll
