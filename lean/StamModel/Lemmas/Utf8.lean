import StamModel.Utf8
import StamModel.Lemmas.List
/-
  Byte offsets are prefix sums of the widths (`prefixB`). Besides looking an entry up, the two conversions count or scan
  on from one (`byteFrom`, `charFrom`), exactly, whichever true entry it is.
-/
namespace Stam

def WidthsWF (ws : List Nat) : Prop := ∀ w ∈ ws, 1 ≤ w

theorem prefixB_zero (ws : List Nat) : prefixB ws 0 = 0 := by simp [prefixB]

theorem prefixB_cons_succ (w : Nat) (ws : List Nat) (p : Nat) :
    prefixB (w :: ws) (p + 1) = w + prefixB ws p := by simp [prefixB]

theorem prefixB_length (ws : List Nat) : prefixB ws ws.length = ws.sum := by simp [prefixB]

theorem prefixB_ge_length (ws : List Nat) (p : Nat) (h : ws.length ≤ p) : prefixB ws p = ws.sum := by
  simp [prefixB, List.take_of_length_le h]

theorem prefixB_add (ws : List Nat) (c k : Nat) :
    prefixB ws (c + k) = prefixB ws c + prefixB (ws.drop c) k := by
  simp [prefixB, List.take_add, List.sum_append]

theorem prefixB_add_sum_drop (ws : List Nat) (c : Nat) : prefixB ws c + (ws.drop c).sum = ws.sum := by
  rw [prefixB, ← List.sum_append, List.take_append_drop]

theorem prefixB_sub (ws : List Nat) {p q : Nat} (h : p ≤ q) :
    prefixB ws q = prefixB ws p + prefixB (ws.drop p) (q - p) := by
  rw [← prefixB_add, Nat.add_sub_cancel' h]

theorem prefixB_mono (ws : List Nat) {p q : Nat} (h : p ≤ q) : prefixB ws p ≤ prefixB ws q := by
  rw [prefixB_sub ws h]
  exact Nat.le_add_right _ _

theorem WidthsWF.tail {w : Nat} {ws : List Nat} (h : WidthsWF (w :: ws)) : WidthsWF ws :=
  fun x hx => h x (by simp [hx])

theorem WidthsWF.drop {ws : List Nat} (h : WidthsWF ws) (c : Nat) : WidthsWF (ws.drop c) :=
  fun x hx => h x (List.mem_of_mem_drop hx)

theorem prefixB_strict (ws : List Nat) (h : WidthsWF ws) :
    ∀ p q, p < q → q ≤ ws.length → prefixB ws p < prefixB ws q := by
  intro p q hpq hq
  rw [prefixB_sub ws (Nat.le_of_lt hpq)]
  -- the stretch from `p` to `q` is not empty, and its first code point has a byte
  obtain ⟨k, hk⟩ := Nat.exists_eq_succ_of_ne_zero (Nat.sub_ne_zero_of_lt hpq)
  cases hd : ws.drop p with
  | nil => exact absurd (List.drop_eq_nil_iff.mp hd) (Nat.not_le.mpr (Nat.lt_of_lt_of_le hpq hq))
  | cons w r =>
    rw [hk, prefixB_cons_succ]
    exact Nat.lt_add_of_pos_right (Nat.add_pos_left (h w (List.mem_of_mem_drop (hd ▸ List.mem_cons_self ..))) _)

theorem prefixB_inj (ws : List Nat) (h : WidthsWF ws) (p q : Nat) (hp : p ≤ ws.length) (hq : q ≤ ws.length)
    (he : prefixB ws p = prefixB ws q) : p = q :=
  Nat.le_antisymm
    (Nat.le_of_not_lt fun hlt => Nat.ne_of_gt (prefixB_strict ws h q p hlt hp) he)
    (Nat.le_of_not_lt fun hlt => Nat.ne_of_lt (prefixB_strict ws h p q hlt hq) he)

theorem prefixB_le_sum (ws : List Nat) (p : Nat) : prefixB ws p ≤ ws.sum :=
  prefixB_add_sum_drop ws p ▸ Nat.le_add_right _ _

theorem dropBytes_pos_cons (w : Nat) (ws : List Nat) (n : Nat) (hn : 0 < n) :
    dropBytes (w :: ws) n = if n ≥ w then dropBytes ws (n - w) else none := by
  cases n with
  | zero => omega
  | succ k => simp [dropBytes]

theorem dropBytes_zero (ws : List Nat) : dropBytes ws 0 = some ws := by
  cases ws <;> simp [dropBytes]

theorem dropBytes_prefix (ws : List Nat) (h : WidthsWF ws) :
    ∀ c, c ≤ ws.length → dropBytes ws (prefixB ws c) = some (ws.drop c) := by
  induction ws with
  | nil =>
    intro c hc
    cases Nat.le_zero.mp hc
    rfl
  | cons w ws ih =>
    intro c hc
    have hw : 1 ≤ w := h w (List.mem_cons_self ..)
    cases c with
    | zero => rw [prefixB_zero, dropBytes_zero, List.drop_zero]
    | succ c =>
      rw [prefixB_cons_succ, dropBytes_pos_cons _ _ _ (Nat.add_pos_left hw _), if_pos (Nat.le_add_right ..),
        Nat.add_sub_cancel_left, ih h.tail c (Nat.le_of_succ_le_succ hc), List.drop_succ_cons]

theorem charScan_drop (ws : List Nat) (c k : Nat) (h : c + k < ws.length) :
    charScan (ws.drop c) k = some (prefixB ws (c + k) - prefixB ws c) := by
  rw [charScan, List.length_drop, if_pos (Nat.lt_sub_of_add_lt (Nat.add_comm c k ▸ h)), prefixB_add,
    Nat.add_sub_cancel_left]

theorem charScan_none (ws : List Nat) (k : Nat) (h : ws.length ≤ k) : charScan ws k = none := by
  rw [charScan, if_neg (Nat.not_lt.mpr h)]

theorem byteScan_boundary (ws : List Nat) (h : WidthsWF ws) :
    ∀ k i, k < ws.length → byteScan ws (prefixB ws k) i = some (i + k) := by
  induction ws with
  | nil =>
    intro k i hk
    cases hk
  | cons w ws ih =>
    intro k i hk
    have hw : 1 ≤ w := h w (List.mem_cons_self ..)
    cases k with
    | zero => rw [prefixB_zero, byteScan, if_pos rfl, Nat.add_zero]
    | succ k =>
      rw [prefixB_cons_succ, byteScan, if_neg (Nat.ne_of_gt (Nat.add_pos_left hw _)),
        if_neg (Nat.not_lt.mpr (Nat.le_add_right ..)), Nat.add_sub_cancel_left,
        ih h.tail k (i + 1) (Nat.lt_of_succ_lt_succ hk), Nat.add_assoc, Nat.add_comm 1 k]

theorem byteScan_some (ws : List Nat) :
    ∀ byte i j, byteScan ws byte i = some j → ∃ k, k < ws.length ∧ prefixB ws k = byte ∧ j = i + k := by
  induction ws with
  | nil =>
    intro byte i j h
    cases h
  | cons w ws ih =>
    intro byte i j h
    rw [byteScan] at h
    split at h
    · next h0 =>
      cases h
      exact ⟨0, Nat.zero_lt_succ _, h0 ▸ prefixB_zero (w :: ws), rfl⟩
    · split at h
      · cases h
      · next h1 =>
        obtain ⟨k, hk, hp, hj⟩ := ih _ _ _ h
        refine ⟨k + 1, Nat.succ_lt_succ hk, ?_, by rw [hj, Nat.add_assoc, Nat.add_comm 1 k]⟩
        rw [prefixB_cons_succ, hp, Nat.add_sub_cancel' (Nat.le_of_not_lt h1)]

theorem prevBelow_mem (idx : List (Nat × Nat)) (key : Nat) (e : Nat × Nat)
    (h : prevBelow idx key = some e) : e ∈ idx ∧ e.1 < key := by
  refine (foldl_some_mem (P := fun x => x.1 < key) _ (fun acc x => ?_) idx none e h).resolve_left nofun
  by_cases hx : x.1 < key
  · rw [if_pos hx]
    cases acc with
    | none => exact Or.inr ⟨rfl, hx⟩
    | some a =>
      dsimp only
      split <;> simp [hx]
  · exact Or.inl (if_neg hx)

/-- what `utf8byte` does from an entry `a = (charpos, bytepos)` below `p`; with none, the same from `(0, 0)` -/
def byteFrom (ws : List Nat) (a : Nat × Nat) (p : Nat) : Out Nat :=
  match dropBytes ws a.2 with
  | none => .panic "byte index is not a char boundary"
  | some rest =>
    if ws.length = p then .ok (a.2 + rest.sum)
    else match charScan rest (p - a.1) with
      | some off => .ok (a.2 + off)
      | none => .err "CursorOutOfBounds"

theorem utf8byte_eq (idx : List (Nat × Nat)) (ws : List Nat) (p : Nat) :
    utf8byte idx ws p = match idx.find? (fun e => e.1 = p) with
      | some e => .ok e.2
      | none => byteFrom ws ((prevBelow idx p).getD (0, 0)) p := by
  unfold utf8byte
  cases idx.find? (fun e => e.1 = p) with
  | some e => rfl
  | none =>
    cases prevBelow idx p with
    | some a => rfl
    | none =>
      simp only [byteFrom, Option.getD_none, dropBytes_zero, Nat.zero_add, Nat.sub_zero]
      -- both sides print alike but use the matchers of two functions: only `rfl` sees through
      rfl

theorem byteFrom_eq (ws : List Nat) (hw : WidthsWF ws) (a : Nat × Nat) (p : Nat)
    (ha : a.1 ≤ ws.length) (hb : a.2 = prefixB ws a.1) (hap : a.1 ≤ p) :
    byteFrom ws a p = if p ≤ ws.length then .ok (prefixB ws p) else .err "CursorOutOfBounds" := by
  simp only [byteFrom, hb, dropBytes_prefix ws hw a.1 ha]
  split
  · next hl => rw [if_pos (Nat.le_of_eq hl.symm), prefixB_add_sum_drop, ← hl, prefixB_length]
  · next hl =>
    by_cases hp : p ≤ ws.length
    · have hlt : a.1 + (p - a.1) < ws.length := by
        rw [Nat.add_sub_cancel' hap]
        exact Nat.lt_of_le_of_ne hp (Ne.symm hl)
      rw [if_pos hp, charScan_drop ws a.1 (p - a.1) hlt, Nat.add_sub_cancel' hap]
      simp only [Nat.add_sub_cancel' (prefixB_mono ws hap)]
    · rw [if_neg hp, charScan_none]
      rw [List.length_drop]
      exact Nat.sub_le_sub_right (Nat.le_of_not_le hp) _

/-- likewise `utf8byte_to_charpos`, from `a = (bytepos, charpos)` below `byte` -/
def charFrom (ws : List Nat) (a : Nat × Nat) (byte : Nat) : Out Nat :=
  match dropBytes ws a.1 with
  | none => .panic "byte index is not a char boundary"
  | some rest =>
    if a.1 + rest.sum = byte then .ok ws.length
    else match byteScan rest (byte - a.1) 0 with
      | some i => .ok (a.2 + i)
      | none => .err "CursorOutOfBounds"

theorem utf8byteToCharpos_eq (b2c : List (Nat × Nat)) (ws : List Nat) (byte : Nat) :
    utf8byteToCharpos b2c ws byte = match b2c.find? (fun e => e.1 = byte) with
      | some e => .ok e.2
      | none => charFrom ws ((prevBelow b2c byte).getD (0, 0)) byte := by
  unfold utf8byteToCharpos
  cases b2c.find? (fun e => e.1 = byte) with
  | some e => rfl
  | none =>
    cases prevBelow b2c byte with
    | some a => rfl
    | none =>
      simp only [charFrom, Option.getD_none, dropBytes_zero, Nat.zero_add, Nat.sub_zero]
      rfl

theorem charFrom_eq (ws : List Nat) (hw : WidthsWF ws) (a : Nat × Nat) (byte : Nat)
    (ha : a.2 ≤ ws.length) (hb : a.1 = prefixB ws a.2) (hab : a.1 ≤ byte) :
    (∀ p, p ≤ ws.length → prefixB ws p = byte → charFrom ws a byte = .ok p) ∧
    ((∀ p, p ≤ ws.length → prefixB ws p ≠ byte) → charFrom ws a byte = .err "CursorOutOfBounds") := by
  simp only [charFrom, hb, dropBytes_prefix ws hw a.2 ha, prefixB_add_sum_drop]
  refine ⟨fun p hp he => ?_, fun hne => ?_⟩
  · subst he
    have hap : a.2 ≤ p := Nat.le_of_not_lt fun h =>
      Nat.not_le_of_lt (prefixB_strict ws hw p a.2 h ha) (hb ▸ hab)
    by_cases hl : p = ws.length
    · rw [if_pos (by rw [hl, prefixB_length]), hl]
    · have hlt : p < ws.length := Nat.lt_of_le_of_ne hp hl
      have := prefixB_strict ws hw p ws.length hlt (Nat.le_refl _)
      rw [prefixB_length] at this
      rw [if_neg (Nat.ne_of_gt this), prefixB_sub ws hap, Nat.add_sub_cancel_left,
        byteScan_boundary _ (hw.drop a.2) (p - a.2) 0 (by rw [List.length_drop]; exact Nat.sub_lt_sub_right hap hlt)]
      simp only [Nat.zero_add, Nat.add_sub_cancel' hap]
  · rw [if_neg (fun h => hne ws.length (Nat.le_refl _) (by rw [prefixB_length]; exact h))]
    cases hs : byteScan (ws.drop a.2) (byte - prefixB ws a.2) 0 with
    | none => rfl
    | some j =>
      obtain ⟨k, hk, hp, _⟩ := byteScan_some _ _ _ _ hs
      rw [List.length_drop] at hk
      refine absurd ?_ (hne (a.2 + k) (Nat.le_of_lt (Nat.add_lt_of_lt_sub' hk)))
      rw [prefixB_add, hp, Nat.add_sub_cancel' (hb ▸ hab)]

end Stam
