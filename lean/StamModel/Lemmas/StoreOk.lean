import StamModel.Lemmas.StoreOps
/-
  Removal succeeds whenever the item exists (C02): the cascade's recursion is well-founded because an
  annotation can only target annotations that existed before it (`TargetsLt`).
-/
namespace Stam

theorem TargetsLt.of_sub {s s' : State} (h : TargetsLt s) (hs : Sub s s') : TargetsLt s' := by
  intro x a' hx t ht
  obtain ⟨a, ha, _, _, hk⟩ := hs x a' hx
  exact h x a ha t (hk _ ht)

theorem DependsOn.le {s : State} (ht : TargetsLt s) {d y : Nat} (hd : DependsOn s d y) : d ≤ y := by
  induction hd with
  | self => exact Nat.le_refl _
  | step htg _ ih => obtain ⟨a, ha, hk⟩ := htg; have := ht _ a ha _ hk; omega

/-- a sweep succeeds when each single removal does, on every state the sweep can pass through -/
theorem fold_removed_ok (f : State → Nat → Option State) (n : Nat)
    (hf : ∀ s d s', Inv s → (getLive s.anns d).isSome → f s d = some s' → Removed s s' d) :
    ∀ (ds : List Nat) (s : State), Inv s → TargetsLt s → s.anns.length = n →
    (∀ d ∈ ds, ∀ st, Inv st → TargetsLt st → st.anns.length = n → (getLive st.anns d).isSome → ∃ s', f st d = some s') →
    ∃ s', ds.foldl (fun acc d => acc.bind (fun st => if (getLive st.anns d).isSome then f st d else some st)) (some s) = some s' ∧
      Swept s s' ds := by
  intro ds s hi ht hn hok
  suffices h : ∃ s', ds.foldl (fun acc d => acc.bind (fun st =>
      if (getLive st.anns d).isSome then f st d else some st)) (some s) = some s' from
    h.imp fun s' h' => ⟨h', fold_removed f hf ds s s' hi h'⟩
  refine (List.foldlRecOn (motive := fun acc => ∃ st, acc = some st ∧ Inv st ∧ TargetsLt st ∧ st.anns.length = n)
    ds _ ⟨s, rfl, hi, ht, hn⟩ ?_).imp fun _ h => h.1
  rintro _ ⟨st, rfl, hi, ht, hn⟩ d hd
  rw [Option.bind_some]
  split
  · next hl =>
    obtain ⟨s1, h1⟩ := hok d hd st hi ht hn hl
    have r := hf st d s1 hi hl h1
    exact ⟨s1, h1, r.inv, ht.of_sub (Sub.of_mono r.mono), r.len.trans hn⟩
  · exact ⟨st, rfl, hi, ht, hn⟩

theorem removeAnn_ok : ∀ (fuel : Nat) (s : State) (h : Nat), Inv s → TargetsLt s →
    (getLive s.anns h).isSome → s.anns.length - h < fuel → ∃ s', State.removeAnn fuel s h = some s' := by
  intro fuel
  induction fuel with
  | zero => intro s h _ _ _ hf; omega
  | succ fuel ih =>
    intro s h hi ht hl hf
    obtain ⟨a0, hla⟩ := Option.isSome_iff_exists.1 hl
    have hhlt := getLive_lt _ _ _ hla
    simp only [State.removeAnn, hla]
    -- whatever targets `h` is younger, so the fuel left suffices for it
    have hdeps : ∀ d ∈ s.lookup (.ann h), h < d := by
      intro d hd
      obtain ⟨ad, had, hkd⟩ := (hi.mem _ _).1 ((mem_lookup s (.ann h) d).1 hd)
      exact ht d ad had h hkd
    obtain ⟨st, hst, sw⟩ := fold_removed_ok (State.removeAnn fuel) s.anns.length
      (fun s d s' hi _ hf => removeAnn_removed fuel s s' d hi hf) (s.lookup (.ann h)) s hi ht rfl
      (fun d hd st hist htst hlen hld => ih st d hist htst hld (by have := hdeps d hd; omega))
    simp only [hst, Option.bind_some]
    -- `h` itself is still there: only dependants of the dependants were removed
    cases hlst : getLive st.anns h with
    | none =>
      obtain ⟨d, hd, hdep⟩ := sw.dep h hl hlst
      have := hdep.le ht
      have := hdeps d hd
      omega
    | some a => exact ⟨_, rfl⟩

theorem removeAll_ok (hs : List Nat) (s : State) (hi : Inv s) (ht : TargetsLt s) :
    ∃ s', s.removeAll hs = some s' ∧ Swept s s' hs :=
  fold_removed_ok (fun st d => st.removeAnn st.fuel d) s.anns.length
    (fun s d s' hi _ hf => removeAnn_removed _ s s' d hi hf) hs s hi ht rfl
    (fun d _ st hist htst _ hld => removeAnn_ok _ st d hist htst hld (by unfold State.fuel; omega))

theorem rmAnn_ok (s : State) (r : Ref) (h : Nat) (hi : Inv s) (ht : TargetsLt s)
    (hres : s.annHandleOf r = some h)
    (hl : (getLive s.anns h).isSome) : (s.rmAnn r).1 = .ok "-" := by
  unfold State.rmAnn
  rw [hres]
  simp only [Option.bind_some]
  obtain ⟨s1, hs1⟩ := removeAnn_ok s.fuel s h hi ht hl (by unfold State.fuel; omega)
  rw [hs1]

theorem rmRes_ok (s : State) (id : String) (rh : Nat) (hi : Inv s) (ht : TargetsLt s)
    (hres : s.lookupRes id = some rh) : (s.rmRes id).1 = .ok "-" := by
  unfold State.rmRes
  simp only [hres]
  obtain ⟨s1, hs1, a⟩ := removeAll_ok (s.lookup (.resMeta rh)) s hi ht
  rw [hs1]
  simp only []
  generalize dedupSorted _ = l
  obtain ⟨s2, hs2, _⟩ := removeAll_ok l s1 a.inv (ht.of_sub a.shrinks.sub)
  rw [hs2]

theorem rmSet_ok (s : State) (id : String) (sh : Nat) (hi : Inv s) (ht : TargetsLt s)
    (hres : s.lookupSet id = some sh) : (s.rmSet id).1 = .ok "-" := by
  unfold State.rmSet
  simp only [hres]
  generalize hl : dedupSorted _ = l
  obtain ⟨s1, hs1, a⟩ := removeAll_ok l s hi ht
  rw [hs1]
  simp only []
  obtain ⟨s2, hs2, _⟩ := removeAll_ok (s1.lookup (.setMeta sh)) s1 a.inv (ht.of_sub a.shrinks.sub)
  rw [hs2]

end Stam
