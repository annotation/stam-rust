import StamModel.Untrusted
/- One turn of each of the two visitor loops of Untrusted.lean, as an equivalence. -/
namespace Stam.UT

/-- the first item lands at `max h slots` if it carries the temporary identifier `h`, at `slots` if it carries none:
`max (it.getD 0) slots` either way -/
theorem loadInto_cons {canAlloc : Nat → Bool} {pre slots : Nat} {it : Option Nat} {rest : List (Option Nat)} {land : List Nat} :
    loadInto canAlloc pre slots (it :: rest) = some land ↔
      (∀ h, it = some h → slots ≤ h + pre ∧ (slots < h → canAlloc (h - slots) = true)) ∧
      ∃ l, loadInto canAlloc pre (max (it.getD 0) slots + 1) rest = some l ∧ land = max (it.getD 0) slots :: l := by
  cases it with
  | none => simp [loadInto, eq_comm (a := land)]
  | some h =>
    simp only [loadInto, Option.some.injEq, forall_eq', Option.getD_some]
    split
    · simp [Nat.not_le.2 ‹slots > h + pre›]
    · simp [Nat.not_lt.1 ‹¬slots > h + pre›, eq_comm (a := land)]

theorem load_cons {canAlloc : Nat → Bool} {slots : Nat} {it : Option Nat} {rest : List (Option Nat)} {land : List Nat} :
    load canAlloc slots (it :: rest) = some land ↔
      (∀ h, it = some h → slots ≤ h ∧ (slots < h → canAlloc (h - slots) = true)) ∧
      ∃ l, load canAlloc (it.getD slots + 1) rest = some l ∧ land = it.getD slots :: l := by
  cases it with
  | none => simp [load, eq_comm (a := land)]
  | some h =>
    simp only [load, Option.some.injEq, forall_eq', Option.getD_some]
    split
    · simp [Nat.not_le.2 ‹slots > h›]
    · simp [Nat.not_lt.1 ‹¬slots > h›, eq_comm (a := land)]

end Stam.UT
