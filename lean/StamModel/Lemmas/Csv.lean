import StamModel.CsvRow
/-
  What the cell writers and readers of Csv.lean and CsvRow.lean do on particular inputs; `Stam.C15.NoPanic` and how it
  passes through `bind` and `if`.
-/
namespace Stam.Csv

theorem packGroups_eq_packColumn {α} (f : α → List Char) (gs : Groups α) (hne : ∀ g ∈ gs, g ≠ []) :
    packGroups f gs = packColumn (gs.flatten.map f) := by
  induction gs with
  | nil => rfl
  | cons g gs ih =>
    have ih' := ih fun g' hg' => hne g' (List.mem_cons_of_mem _ hg')
    simp only [packGroups, packColumn, List.flatMap_cons, List.flatten_cons, List.map_append, List.flatMap_append] at ih' ⊢
    rw [ih']
    cases g with
    | nil => exact absurd rfl (hne [] List.mem_cons_self)
    | cons x xs => simp [List.flatMap_map]

theorem optAllK_map_some {α} (f : α → Kind) (l : List α) : optAllK (l.map fun x => some (f x)) = some (l.map f) := by
  induction l with
  | nil => rfl
  | cons x xs ih => simp only [List.map_cons, optAllK, ih, Option.map_some]

theorem Sub.kind_isComplex (s : Sub) : s.kind.isComplex = false := by
  cases s <;> rfl

theorem mem_kinds (k : Kind) : k ∈ [Kind.text, .ann, .res, .set, .key, .data, .multi, .comp, .dir] := by
  cases k <;> decide

/-- one evaluation of the whole table: the kernel computes the character list of each literal once -/
theorem kindStr_table : ∀ k ∈ [Kind.text, .ann, .res, .set, .key, .data, .multi, .comp, .dir],
    parseKind (kindStr k) = some k ∧ ';' ∉ kindStr k := by
  decide +kernel

theorem parseKind_kindStr (k : Kind) : parseKind (kindStr k) = some k := (kindStr_table k (mem_kinds k)).1


theorem getOrLastP_eq {α} (l : List α) (i : Nat) (h : l ≠ []) : getOrLastP l i = .ok ((l[i]?).getD (l.getLast h)) := by
  simp only [getOrLastP, lastP, List.getLast?_eq_some_getLast h]

theorem parseCursor_of_head (parseNat : List Char → Option Nat) (cs : List Char) (h : cs.head? ≠ some '-') :
    parseCursor parseNat cs = match parseNat cs with | some n => .ok (.b n) | none => .err "InvalidCursor" := by
  unfold parseCursor
  split
  · exact absurd rfl h
  · rfl

theorem intercalateSemi_cons (v : S) (vs : List S) : writeData.intercalateSemi (v :: vs) = v ++ packColumn vs := by
  induction vs generalizing v with
  | nil => simp [writeData.intercalateSemi, packColumn]
  | cons w ws ih => rw [writeData.intercalateSemi, ih]; simp [packColumn]

end Stam.Csv

namespace Stam.C15
open Stam.Csv

def NoPanic {α} : Out α → Prop
  | .panic _ => False
  | _ => True

theorem noPanic_iff {α} {o : Out α} : NoPanic o ↔ o.isPanic = false := by
  cases o <;> simp [NoPanic, Out.isPanic]

namespace NoPanic
variable {α β : Type}

theorem ok {x : α} : NoPanic (.ok x) := trivial

theorem err {m : String} : NoPanic (.err m : Out α) := trivial

theorem bind' {o : Out α} {f : α → Out β} (ho : NoPanic o) (hf : ∀ x, o = .ok x → NoPanic (f x)) : NoPanic (o.bind f) := by
  cases o with
  | ok x => exact hf x rfl
  | err m => trivial
  | panic m => exact ho

theorem bind {o : Out α} {f : α → Out β} (ho : NoPanic o) (hf : ∀ x, NoPanic (f x)) : NoPanic (o.bind f) :=
  bind' ho fun x _ => hf x

theorem ite {c : Prop} [Decidable c] {a b : Out α} (ha : NoPanic a) (hb : NoPanic b) : NoPanic (if c then a else b) :=
  iteInduction (fun _ => ha) (fun _ => hb)

theorem ite' {c : Prop} [Decidable c] {a b : Out α} (ha : c → NoPanic a) (hb : ¬c → NoPanic b) :
    NoPanic (if c then a else b) :=
  iteInduction ha hb

theorem parseCursor (parseNat : S → Option Nat) (s : S) : NoPanic (Csv.parseCursor parseNat s) := by
  unfold Csv.parseCursor
  split <;> split <;> trivial

end NoPanic

theorem unwrapP_nopanic {α} {o : Option α} (h : o.isSome = true) : NoPanic (unwrapP o) := by
  cases o with
  | some x => trivial
  | none => cases h

theorem cursors_nopanic {α} (parseNat : S → Option Nat) (b e : S) (k : Cursor → Cursor → α) :
    NoPanic ((cursorOf parseNat b).bind fun b => (cursorOf parseNat e).bind fun e => .ok (k b e)) :=
  .bind (.parseCursor _ _) fun _ => .bind (.parseCursor _ _) fun _ => .ok

end Stam.C15
