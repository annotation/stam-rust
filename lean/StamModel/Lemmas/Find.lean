import StamModel.Find
import StamModel.Lemmas.List
/-
  The sort and the two range scans keep the members, and the distinctness, of what they are given; a scan loses nothing
  when its range covers what passes the filter.
-/
namespace Stam

theorem insSorted_perm (k : TSel → Nat) (x : TSel) (l : List TSel) : (insSorted k x l).Perm (x :: l) := by
  induction l with
  | nil => simp [insSorted]
  | cons y ys ih =>
    simp only [insSorted]
    split
    · exact List.Perm.refl _
    · exact (List.Perm.cons y ih).trans (List.Perm.swap x y ys)

theorem sortBy_perm (k : TSel → Nat) (l : List TSel) : (sortBy k l).Perm l :=
  foldl_prefix_induction _ (fun pre s => s.Perm pre) [] .nil
    (fun pre s x h => (insSorted_perm k x s).trans ((h.cons x).trans (List.perm_append_singleton x pre).symm)) l

theorem mem_sortBy (k : TSel → Nat) (l : List TSel) (a : TSel) : a ∈ sortBy k l ↔ a ∈ l :=
  (sortBy_perm k l).mem_iff

theorem nodup_sortBy {k : TSel → Nat} {l : List TSel} (h : l.Nodup) : (sortBy k l).Nodup :=
  (sortBy_perm k l).nodup_iff.2 h

theorem mem_fwdRange (sels : List TSel) (lo hi : Nat) (t : TSel) :
    t ∈ fwdRange sels lo hi ↔ (t ∈ sels ∧ lo ≤ t.b ∧ t.b < hi) := by
  simp [fwdRange, mem_sortBy]

theorem mem_bwdRange (sels : List TSel) (lo hi : Nat) (t : TSel) :
    t ∈ bwdRange sels lo hi ↔ (t ∈ sels ∧ lo ≤ t.e ∧ t.e < hi) := by
  simp [bwdRange, mem_sortBy]

theorem nodup_fwdRange (sels : List TSel) (lo hi : Nat) (h : sels.Nodup) : (fwdRange sels lo hi).Nodup :=
  nodup_sortBy (h.filter _)

theorem nodup_bwdRange (sels : List TSel) (lo hi : Nat) (h : sels.Nodup) : (bwdRange sels lo hi).Nodup :=
  nodup_sortBy ((List.reverse_perm _).nodup_iff.2 (h.filter _))

/-- `R` is the range condition of a scan, `cands` what it yields -/
theorem mem_filter_of_cover {cands sels : List TSel} {p : TSel → Bool} {R : Prop} {t : TSel}
    (hmem : t ∈ cands ↔ t ∈ sels ∧ R) (hcov : t ∈ sels → p t = true → R) :
    t ∈ cands.filter p ↔ t ∈ sels ∧ p t = true := by
  rw [List.mem_filter, hmem]
  exact ⟨fun ⟨⟨h1, _⟩, h2⟩ => ⟨h1, h2⟩, fun ⟨h1, h2⟩ => ⟨⟨h1, hcov h1 h2⟩, h2⟩⟩

theorem plan_full_or_single (op : Op) (refset : TSet) (n : Nat) :
    plan op refset n = (0, n + 1, .fwd) ∨ (op.neg = false ∧ ∃ r, refset.items = [r]) := by
  unfold plan
  cases hn : op.neg
  · rcases h : refset.items with _ | ⟨r, _ | ⟨r2, rest⟩⟩
    · exact .inl rfl
    · exact .inr ⟨rfl, r, rfl⟩
    · exact .inl rfl
  · exact .inl rfl

end Stam
