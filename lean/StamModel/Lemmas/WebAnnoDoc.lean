import StamModel.WebAnnoDoc
/-
  What the exporter writes with its flags and emptiness tests is, emitter by emitter, the specification's token
  list; that list is well-formed JSON.
-/
namespace Stam.WD
open Stam.WA (Str WV WVs)

section Lists
variable {α β : Type} {P : α → Prop}

theorem all_nil : ∀ x ∈ ([] : List α), P x := nofun

theorem all_cons {a : α} {l : List α} (h : P a) (hs : ∀ x ∈ l, P x) : ∀ x ∈ a :: l, P x :=
  List.forall_mem_cons.mpr ⟨h, hs⟩

theorem all_append {l₁ l₂ : List α} (h₁ : ∀ x ∈ l₁, P x) (h₂ : ∀ x ∈ l₂, P x) : ∀ x ∈ l₁ ++ l₂, P x :=
  List.forall_mem_append.mpr ⟨h₁, h₂⟩

theorem all_ite {p : Prop} [Decidable p] {l₁ l₂ : List α} (h₁ : ∀ x ∈ l₁, P x) (h₂ : ∀ x ∈ l₂, P x) :
    ∀ x ∈ (if p then l₁ else l₂), P x := by
  split <;> assumption

theorem all_map {f : β → α} {l : List β} (h : ∀ y, P (f y)) : ∀ x ∈ l.map f, P x :=
  List.forall_mem_map.mpr fun y _ => h y

theorem append_ite (p : Prop) [Decidable p] (a x y : List α) :
    (if p then a ++ x else a ++ y) = a ++ if p then x else y := by
  split <;> rfl

theorem append_ite_self (p : Prop) [Decidable p] (a x : List α) :
    (if p then a ++ x else a) = a ++ if p then x else [] := by
  split
  · rfl
  · exact (List.append_nil a).symm

end Lists

/-! ## joining

`sepBy`: a separator before every piece but the first; `withCommas`: a comma after every piece. They meet in
`sepBy_append_ne`. -/

def NE (L : List Toks) : Prop := ∀ x ∈ L, x ≠ []

theorem sepBy_cons_cons (x y : Toks) (r : List Toks) : sepBy (x :: y :: r) = x ++ [.comma] ++ sepBy (y :: r) := rfl

theorem sepBy_cons_ne {x : Toks} {L : List Toks} (h : L ≠ []) : sepBy (x :: L) = x ++ [.comma] ++ sepBy L := by
  cases L with
  | nil => exact absurd rfl h
  | cons y r => rfl

/-- every member followed by a comma -/
def withCommas (L : List Toks) : Toks := L.flatMap (fun x => x ++ [.comma])

theorem withCommas_nil : withCommas [] = [] := rfl
theorem withCommas_cons (x : Toks) (L : List Toks) : withCommas (x :: L) = x ++ [.comma] ++ withCommas L :=
  List.flatMap_cons
theorem withCommas_singleton (x : Toks) : withCommas [x] = x ++ [.comma] := List.flatMap_singleton ..

theorem withCommas_append (A B : List Toks) : withCommas (A ++ B) = withCommas A ++ withCommas B :=
  List.flatMap_append

theorem sepBy_append_ne {L1 L2 : List Toks} (h2 : L2 ≠ []) : sepBy (L1 ++ L2) = withCommas L1 ++ sepBy L2 := by
  induction L1 with
  | nil => rfl
  | cons x r ih =>
    rw [List.cons_append, sepBy_cons_ne (by simp [h2]), ih, withCommas_cons]
    simp only [List.append_assoc]

theorem sepBy_comma (L : List Toks) : sepBy L ++ (if L.isEmpty then [] else [.comma]) = withCommas L := by
  induction L with
  | nil => rfl
  | cons x r ih =>
    cases r with
    | nil => simp [sepBy, withCommas]
    | cons y r' =>
      rw [sepBy_cons_cons, withCommas_cons, ← ih]
      simp

theorem sepBy_append {L1 L2 : List Toks} (h1 : L1 ≠ []) (h2 : L2 ≠ []) :
    sepBy (L1 ++ L2) = sepBy L1 ++ [.comma] ++ sepBy L2 := by
  rw [sepBy_append_ne h2, ← sepBy_comma, List.isEmpty_eq_false_iff.mpr h1]
  rfl

theorem sepBy_snoc (L : List Toks) (m : Toks) :
    sepBy (L ++ [m]) = (if L.isEmpty then sepBy L else sepBy L ++ [.comma]) ++ m := by
  rw [sepBy_append_ne (List.cons_ne_nil _ _), ← sepBy_comma]
  cases L <;> rfl

theorem sepBy_eq_nil (L : List Toks) (h : NE L) : sepBy L = [] ↔ L = [] := by
  cases L with
  | nil => simp [sepBy]
  | cons x r =>
    have hx : x ≠ [] := h x List.mem_cons_self
    cases r <;> simp [sepBy, hx]

theorem sepBy_isEmpty (L : List Toks) (h : NE L) : (sepBy L).isEmpty = L.isEmpty := by
  cases L with
  | nil => rfl
  | cons x r =>
    have : sepBy (x :: r) ≠ [] := fun e => absurd ((sepBy_eq_nil (x :: r) h).mp e) (by simp)
    simp [this]

/-- empty groups drop out: joining the rest is joining all their items -/
theorem sepBy_filter_cons {I G R : List Toks} (hI : NE I) (hR : NE R)
    (h : sepBy (G.filter (fun i => !i.isEmpty)) = sepBy R) :
    sepBy ((sepBy I :: G).filter (fun i => !i.isEmpty)) = sepBy (I ++ R) := by
  have hF : NE (G.filter (fun i => !i.isEmpty)) := fun x hx => by simpa using (List.mem_filter.mp hx).2
  rw [List.filter_cons]
  by_cases hi : I = []
  · subst hi
    exact h
  · have hne : sepBy I ≠ [] := mt (sepBy_eq_nil I hI).mp hi
    rw [if_pos (by simpa using hne)]
    by_cases hr : R = []
    · have hf := (sepBy_eq_nil _ hF).mp (by rw [h, hr]; rfl)
      rw [hf, hr, List.append_nil]
      rfl
    · have hf : G.filter (fun i => !i.isEmpty) ≠ [] := fun e => hr ((sepBy_eq_nil R hR).mp (by rw [← h, e]; rfl))
      rw [sepBy_cons_ne hf, sepBy_append hi hr, h]

/-! ## members -/

/-- a member as it is written -/
def memToks (m : Str × Toks) : Toks := [.str m.1, .colon] ++ m.2

theorem objT_eq (ms : List (Str × Toks)) : objT ms = [.lb] ++ sepBy (ms.map memToks) ++ [.rb] := rfl

theorem NE_map_memToks (ms : List (Str × Toks)) : NE (ms.map memToks) :=
  all_map fun _ => List.cons_ne_nil _ _

theorem objT_append_ne {X Y : List (Str × Toks)} (hy : Y ≠ []) :
    objT (X ++ Y) = [.lb] ++ withCommas (X.map memToks) ++ sepBy (Y.map memToks) ++ [.rb] := by
  rw [objT_eq, List.map_append, sepBy_append_ne (by simpa using hy)]
  simp

theorem withCommas_objMember {k : Str} {X B : List (Str × Toks)} (hB : B ≠ []) :
    withCommas [memToks (k, objT (X ++ B))] =
      [.str k, .colon, .lb] ++ (withCommas (X.map memToks) ++ (sepBy (B.map memToks) ++ [.rb, .comma])) := by
  rw [objT_append_ne hB]
  simp [withCommas, memToks]

theorem withCommas_ite (p : Prop) [Decidable p] (X Y : List (Str × Toks)) :
    withCommas ((if p then X else Y).map memToks) = if p then withCommas (X.map memToks) else withCommas (Y.map memToks) := by
  split <;> rfl

theorem push_body (B : List (Str × Toks)) {m : Str × Toks} {bodyOut : Toks} (hb : bodyOut = sepBy (B.map memToks)) :
    (if bodyOut.isEmpty then bodyOut else bodyOut ++ [.comma]) ++ memToks m = sepBy ((B ++ [m]).map memToks) := by
  rw [List.map_append, List.map_cons, List.map_nil, sepBy_snoc, hb, sepBy_isEmpty _ (NE_map_memToks B)]

theorem push_main (P : Toks) (M : List (Str × Toks)) {m : Str × Toks} {outMain : Bool} {annOut : Toks}
    (ha : annOut = P ++ sepBy (M.map memToks)) (ho : outMain = !M.isEmpty) :
    (if outMain then annOut ++ [.comma] else annOut) ++ memToks m = P ++ sepBy ((M ++ [m]).map memToks) := by
  rw [List.map_append, List.map_cons, List.map_nil, sepBy_snoc, ha, ho]
  cases M <;> simp

theorem outPred_eq (showI : Int → Str) (c : Cfg) (pred : Str) (v : WV) :
    outPred showI c pred v = memToks (predMember showI c pred v) := by
  unfold outPred predMember memToks
  cases h : valueIsIri v <;> simp [objT, sepBy]

/-! ## the specified document is well-formed JSON -/

theorem WF.ne_nil {t : Toks} (h : WF t) : t ≠ [] := by
  cases h <;> simp [arrT, objT]

theorem NE_of_wf {L : List Toks} (h : ∀ t ∈ L, WF t) : NE L :=
  fun t ht => (h t ht).ne_nil

def wvList : WVs → List WV
  | .nil => []
  | .cons x xs => x :: wvList xs

theorem elemToks_eq (showI : Int → Str) : ∀ xs, elemToks showI xs = sepBy ((wvList xs).map (valToks showI))
  | .nil => by simp [elemToks, wvList, sepBy]
  | .cons x .nil => by simp [elemToks, wvList, sepBy]
  | .cons x (.cons y ys) => by
    have := elemToks_eq showI (.cons y ys)
    simp only [elemToks, wvList, List.map_cons] at this ⊢
    rw [this, sepBy_cons_cons]

mutual
theorem valToks_wf (showI : Int → Str) : ∀ v, WF (valToks showI v)
  | .null => .raw _
  | .bool true => .raw _
  | .bool false => .raw _
  | .int _ => .raw _
  | .str _ => .str _
  | .lit _ => .raw _
  | .list xs => by
    rw [valToks, elemToks_eq]
    exact .arr _ (elems_wf showI xs)
theorem elems_wf (showI : Int → Str) : ∀ xs, ∀ t ∈ (wvList xs).map (valToks showI), WF t
  | .nil => all_nil
  | .cons x xs => all_cons (valToks_wf showI x) (elems_wf showI xs)
end

theorem predMember_wf (showI : Int → Str) (c : Cfg) (pred : Str) (v : WV) : WF (predMember showI c pred v).2 := by
  unfold predMember
  split
  · exact .obj _ (all_cons (.str _) all_nil)
  · exact valToks_wf showI v

theorem ctxSpec_wf (c : Cfg) : WF (ctxSpec c) := by
  unfold ctxSpec
  split
  · exact .str _
  · exact .arr _ (all_append (all_append (all_cons (.str _) all_nil) (all_map fun _ => .str _))
      (all_ite all_nil (all_cons (.obj _ (all_map fun _ => .str _)) all_nil)))

theorem textSpec_wf {resIri : Str} {b e : Nat} : WF (textSpec resIri b e) :=
  .obj _ (all_cons (.str _) (all_cons (.obj _ (all_cons (.str _) (all_cons (.raw _) (all_cons (.raw _) all_nil)))) all_nil))

theorem wf_obj2 {k1 k2 : Str} {v1 v2 : Toks} (h1 : WF v1) (h2 : WF v2) : WF (objT [(k1, v1), (k2, v2)]) :=
  .obj _ (all_cons h1 (all_cons h2 all_nil))

mutual
theorem selItems_wf (tmpl second : Bool) : ∀ s, ∀ t ∈ selItems tmpl second s, WF t
  | .text resIri b e tm => by
    unfold selItems
    exact all_ite (all_ite (all_cons (.str _) all_nil) all_nil) (all_cons textSpec_wf all_nil)
  | .ann (some _) | .res _ | .set _ => all_cons (wf_obj2 (.str _) (.str _)) all_nil
  | .ann none => all_cons (.obj _ (all_cons (.raw _) all_nil)) all_nil
  | .complex kind subs => all_cons (wf_obj2 (.str _) (.arr _ (selsItems_wf tmpl second subs))) all_nil
  | .skip => all_nil
  | .ranged subs => by
    unfold selItems
    exact selsItems_wf tmpl second subs
theorem selsItems_wf (tmpl second : Bool) : ∀ ss, ∀ t ∈ selsItems tmpl second ss, WF t
  | [] => all_nil
  | s :: ss => by
    unfold selsItems
    exact all_append (selItems_wf tmpl second s) (selsItems_wf tmpl second ss)
end

theorem targetSpec_wf (tmpl : Bool) (sel : Sel) (h : TopOk sel) : WF (targetSpec tmpl sel) :=
  match sel, h with
  | .text resIri b e t, _ => by
    simp only [targetSpec]
    split
    · exact .arr _ (all_cons textSpec_wf (all_cons (.str _) all_nil))
    · exact textSpec_wf
  | .ann (some _), _ | .res _, _ | .set _, _ => wf_obj2 (.str _) (.str _)
  | .ann none, _ => .obj _ (all_cons (.raw _) all_nil)
  | .complex kind subs, _ => by
    have hp : ∀ second, WF (objT [(kType, [.str (complexType kind)]), (kItems, arrT (selsItems tmpl second subs))]) :=
      fun second => wf_obj2 (.str _) (.arr _ (selsItems_wf tmpl second subs))
    simp only [targetSpec]
    split
    · exact .arr _ (all_cons (hp false) (all_cons (hp true) all_nil))
    · exact hp false
  | .skip, h | .ranged _, h => h.elim

theorem idMem_wf (c : Cfg) (annIri : Option Str) (suffix : Str) : ∀ m ∈ idMem c annIri suffix, WF m.2 := by
  unfold idMem
  cases annIri with
  | some iri => exact all_cons (.str _) all_nil
  | none => exact all_ite (all_cons (.str _) all_nil) all_nil

/-! ## the context -/

theorem nsLoop_spec (L : List (Str × Str)) (B : List (Str × Toks)) :
    nsLoop (sepBy (B.map memToks)) L = sepBy ((B ++ L.map (fun p => (p.2, [Tok.str p.1]))).map memToks) := by
  induction L generalizing B with
  | nil => simp [nsLoop]
  | cons p r ih =>
    obtain ⟨uri, ns⟩ := p
    rw [nsLoop, show [Tok.str ns, .colon, .str uri] = memToks (ns, [.str uri]) from rfl, push_body B rfl, ih]
    simp

theorem ctxToks_eq (c : Cfg) : ctxToks c = ctxSpec c := by
  have hns : nsLoop [] c.namespaces = sepBy ((c.namespaces.map (fun p => (p.2, [Tok.str p.1]))).map memToks) :=
    nsLoop_spec c.namespaces []
  unfold ctxToks ctxSpec
  rw [hns]
  by_cases he : c.extraContext = [] <;> by_cases hn : c.namespaces = []
  · simp [he, hn]
  · simp [he, hn, arrT, objT, sepBy, memToks, Function.comp_def]
  · have hx : c.extraContext.map (fun u => [Tok.str u]) ≠ [] := by simpa using he
    simp [he, hn, arrT, sepBy_cons_ne hx]
  · have hE : c.extraContext.isEmpty = false := List.isEmpty_eq_false_iff.mpr he
    have hN : c.namespaces.isEmpty = false := List.isEmpty_eq_false_iff.mpr hn
    have hx : (c.extraContext.map (fun u => [Tok.str u])).isEmpty = false := by simpa using he
    simp only [arrT, hE, hN, Bool.not_false, Bool.and_false, Bool.false_eq_true, ↓reduceIte]
    rw [sepBy_append_ne (L2 := [_]) (List.cons_ne_nil _ _), withCommas_append, ← sepBy_comma (c.extraContext.map _), hx]
    simp [withCommas, sepBy, objT_eq]

/-! ## the data loop -/

theorem mainMembers_concat (showI : Int → Str) (c : Cfg) (data : List Datum) (d : Datum) :
    mainMembers showI c (data ++ [d]) = mainMembers showI c data ++ (if isMain d then [predMember showI c d.keyId d.val] else []) := by
  unfold mainMembers
  by_cases h : isMain d <;> simp [h]

theorem bodyMembers_concat (showI : Int → Str) (c : Cfg) (data : List Datum) (d : Datum) :
    bodyMembers showI c (data ++ [d]) =
      bodyMembers showI c data ++ (if isMain d then [] else [predMember showI c (if d.inAnno then d.keyId else d.keyIri) d.val]) := by
  unfold bodyMembers
  by_cases h : isMain d <;> simp [h]

theorem hasAnnoKey_concat (k : Str) (data : List Datum) (d : Datum) :
    hasAnnoKey k (data ++ [d]) = (hasAnnoKey k data || (d.inAnno && decide (d.keyId = k))) := by
  simp [hasAnnoKey]

/-- what the loop maintains: the annotation-level members and the body members put out so far, joined by commas -/
structure LoopInv (P : Toks) (M B : List (Str × Toks)) (t g r e : Bool) (st : LoopSt) : Prop where
  ann : st.annOut = P ++ sepBy (M.map memToks)
  om : st.outMain = !M.isEmpty
  body : st.bodyOut = sepBy (B.map memToks)
  st_ : st.supType = t
  si : st.supId = g
  sg : st.supGenerated = r
  sr : st.supGenerator = e

theorem stepDatum_eq (showI : Int → Str) (c : Cfg) (st : LoopSt) (d : Datum) :
    stepDatum showI c st d =
      { annOut := if isMain d then (if st.outMain then st.annOut ++ [.comma] else st.annOut) ++ outPred showI c d.keyId d.val else st.annOut
        outMain := st.outMain || isMain d
        bodyOut := if isMain d then st.bodyOut else
          (if st.bodyOut.isEmpty then st.bodyOut else st.bodyOut ++ [.comma]) ++ outPred showI c (if d.inAnno then d.keyId else d.keyIri) d.val
        supType := st.supType || (d.inAnno && decide (d.keyId = kType))
        supId := st.supId || (d.inAnno && decide (d.keyId = kId))
        supGenerated := st.supGenerated || (d.inAnno && decide (d.keyId = kGenerated))
        supGenerator := st.supGenerator || (d.inAnno && decide (d.keyId = kGenerator)) } := by
  obtain ⟨a, k, ki, v⟩ := d
  cases a
  · simp [stepDatum, isMain]
  -- with the key substituted, every comparison left is between two of the constants
  by_cases h1 : k = kGenerated
  · subst h1
    simp +decide [stepDatum, isMain, isMainKey]
  by_cases h2 : k = kGenerator
  · subst h2
    simp +decide [stepDatum, isMain, isMainKey]
  by_cases h3 : k = kMotivation ∨ k = kCreated ∨ k = kCreator
  · rcases h3 with rfl | rfl | rfl <;> simp +decide [stepDatum, isMain, isMainKey]
  · have hk : (!decide (k = kType) && decide (k = kId)) = decide (k = kId) := by
      by_cases hk : k = kId
      · subst hk
        decide
      · simp [hk]
    simp only [not_or] at h3
    simp [stepDatum, isMain, isMainKey, h1, h2, h3, hk]

theorem step_inv (showI : Int → Str) (c : Cfg) (P : Toks) (M B : List (Str × Toks)) (t g r e : Bool) (st : LoopSt) (d : Datum)
    (h : LoopInv P M B t g r e st) :
    LoopInv P (M ++ (if isMain d then [predMember showI c d.keyId d.val] else []))
      (B ++ (if isMain d then [] else [predMember showI c (if d.inAnno then d.keyId else d.keyIri) d.val]))
      (t || (d.inAnno && decide (d.keyId = kType))) (g || (d.inAnno && decide (d.keyId = kId)))
      (r || (d.inAnno && decide (d.keyId = kGenerated))) (e || (d.inAnno && decide (d.keyId = kGenerator)))
      (stepDatum showI c st d) := by
  obtain ⟨ha, ho, hb, ht, hg, hr, he⟩ := h
  rw [stepDatum_eq, ht, hg, hr, he, outPred_eq, outPred_eq]
  cases isMain d
  · exact ⟨by simpa using ha, by simpa using ho, push_body B hb, rfl, rfl, rfl, rfl⟩
  · exact ⟨push_main P M ha ho, by simp, by simpa using hb, rfl, rfl, rfl, rfl⟩

theorem loop_inv (showI : Int → Str) (c : Cfg) (P : Toks) (data : List Datum) :
    LoopInv P (mainMembers showI c data) (bodyMembers showI c data)
      (hasAnnoKey kType data) (hasAnnoKey kId data) (hasAnnoKey kGenerated data) (hasAnnoKey kGenerator data)
      (data.foldl (stepDatum showI c) { annOut := P, bodyOut := [] }) := by
  -- from the last item backwards: `step_inv` then speaks of the state as it stands, and nothing is generalised
  rw [← data.reverse_reverse]
  induction data.reverse with
  | nil => exact ⟨(List.append_nil P).symm, rfl, rfl, rfl, rfl, rfl, rfl⟩
  | cons d l ih =>
    rw [List.reverse_cons, List.foldl_append, mainMembers_concat, bodyMembers_concat, hasAnnoKey_concat, hasAnnoKey_concat,
      hasAnnoKey_concat, hasAnnoKey_concat]
    exact step_inv showI c P _ _ _ _ _ _ _ d ih

/-! ## selectors -/

theorem textObj_eq (resIri : Str) (b e : Nat) : textObj resIri b e = textSpec resIri b e := by
  simp [textObj, textSpec, objT, sepBy]

mutual
theorem outSel_nested (tmpl second : Bool) : ∀ s, (outSel tmpl true second s).1 = sepBy (selItems tmpl second s)
  | .text resIri b e t => by
    cases second <;> cases tmpl <;> simp [outSel, selItems, sepBy, textObj_eq]
  | .ann (some _) | .ann none | .res _ | .set _ | .skip => rfl
  | .complex kind subs => by
    have := outSels_items tmpl second subs
    simp only [outSel, selItems, sepBy, objT, arrT, List.map_cons, List.map_nil]
    rw [this]
    simp
  | .ranged subs => by
    have := outSels_items tmpl second subs
    simp only [outSel, selItems, ↓reduceIte]
    exact this
theorem outSels_items (tmpl second : Bool) : ∀ ss,
    sepBy (((outSels tmpl second ss).1).filter (fun i => !i.isEmpty)) = sepBy (selsItems tmpl second ss)
  | [] => by simp [outSels, selsItems]
  | s :: ss => by
    simp only [outSels, selsItems]
    rw [outSel_nested tmpl second s]
    exact sepBy_filter_cons (NE_of_wf (selItems_wf tmpl second s)) (NE_of_wf (selsItems_wf tmpl second ss))
      (outSels_items tmpl second ss)
end

mutual
theorem outSel_need (tmpl : Bool) : ∀ s, (outSel tmpl true false s).2 = (tmpl && hasText s)
  | .text .. | .ann (some _) | .ann none | .res _ | .set _ | .skip => by simp [outSel, hasText]
  | .complex _ subs | .ranged subs => by simp [outSel, hasText, outSels_need tmpl subs]
theorem outSels_need (tmpl : Bool) : ∀ ss, (outSels tmpl false ss).2 = (tmpl && hasTexts ss)
  | [] => by simp [outSels, hasTexts]
  | s :: ss => by
    simp only [outSels, hasTexts, outSel_need tmpl s, outSels_need tmpl ss]
    cases tmpl <;> simp
end

theorem target_eq (tmpl : Bool) (sel : Sel) (h : TopOk sel) :
    (if (outSel tmpl false false sel).2 then
        [Tok.lk] ++ (outSel tmpl false false sel).1 ++ [.comma] ++ (outSel tmpl false true sel).1 ++ [.rk]
      else (outSel tmpl false false sel).1) = targetSpec tmpl sel :=
  match sel, h with
  | .text resIri b e t, _ => by
    cases tmpl <;> simp [outSel, targetSpec, arrT, sepBy, textObj_eq]
  | .ann (some _), _ | .ann none, _ | .res _, _ | .set _, _ => rfl
  | .complex kind subs, _ => by
    -- a complex selector is written the same way nested or not
    have hn : (outSel tmpl false false (.complex kind subs)).2 = (tmpl && hasTexts subs) :=
      outSel_need tmpl (.complex kind subs)
    have hp : ∀ second, (outSel tmpl false second (.complex kind subs)).1
        = objT [(kType, [.str (complexType kind)]), (kItems, arrT (selsItems tmpl second subs))] :=
      fun second => outSel_nested tmpl second (.complex kind subs)
    rw [hn, hp, hp]
    simp only [targetSpec, arrT, sepBy, List.append_assoc]
  | .skip, h | .ranged _, h => h.elim

/-! ## the document -/

theorem idToks_eq (c : Cfg) (annIri : Option Str) (suffix : Str) :
    idToks c annIri suffix = withCommas ((idMem c annIri suffix).map memToks) := by
  unfold idToks idMem
  cases annIri with
  | some iri => simp [withCommas, memToks]
  | none => cases c.genIri <;> simp [withCommas, memToks]

theorem prefix_eq (c : Cfg) (annIri : Option Str) :
    prefixToks c annIri = [.lb] ++ withCommas ((([(kContext, ctxSpec c)] ++ idMem c annIri [] ++ [(kType, [Tok.str vAnnotation])]) : List (Str × Toks)).map memToks) := by
  simp only [prefixToks, ctxToks_eq, idToks_eq, List.map_append, withCommas_append]
  simp [withCommas, memToks]

theorem finish_spec (c : Cfg) (annIri : Option Str) (sel : Sel) (h : TopOk sel)
    {P : Toks} {M B : List (Str × Toks)} {t g r e : Bool} {st : LoopSt} (hi : LoopInv P M B t g r e st) :
    finish c annIri st sel =
      P ++ withCommas ((M
        ++ (if c.autoGenerated && !r then [(kGenerated, [Tok.str nowMark])] else [])
        ++ (if c.autoGenerator && !e then
              [(kGenerator, objT [(kId, [.str vLibIri]), (kType, [.str vSoftware]), (kName, [.str vLibName])])] else [])
        ++ (if B.isEmpty then [] else
              [(kBody, objT ((if t then [] else [(kType, [Tok.str vDataset])])
                ++ (if g then [] else idMem c annIri vBodySuffix) ++ B))])).map memToks)
        ++ memToks (kTarget, targetSpec c.hasTemplate sel) ++ [.rb] := by
  obtain ⟨ha, ho, hb, ht, hg, hr, he⟩ := hi
  have hmain : sepBy (M.map memToks) ++ (if (!M.isEmpty) = true then [Tok.comma] else []) = withCommas (M.map memToks) := by
    rw [← sepBy_comma (M.map memToks)]
    cases M <;> rfl
  have htarget := target_eq c.hasTemplate sel h
  simp only [List.append_assoc] at htarget
  unfold finish
  -- with the conditionals moved inside the appends, each optional piece faces one optional member
  simp only [append_ite_self, append_ite, List.append_assoc, ha, ho, hb, ht, hg, hr, he, htarget]
  simp only [List.map_append, withCommas_append, withCommas_ite, List.map_nil, withCommas_nil, List.append_assoc]
  rw [← List.append_assoc (sepBy _), hmain, sepBy_isEmpty _ (NE_map_memToks _)]
  cases B with
  | nil => rfl
  | cons b B =>
    simp only [List.isEmpty_cons, Bool.not_false, Bool.false_eq_true, ↓reduceIte, List.map_cons, List.map_nil]
    rw [← List.append_assoc _ _ (b :: B), withCommas_objMember (List.cons_ne_nil b B), List.map_append,
      withCommas_append, withCommas_ite, withCommas_ite, ← idToks_eq]
    cases t <;> cases g <;> rfl

end Stam.WD
