import StamModel.Validation
import StamModel.Lemmas.List
/-
  `protectWith` and `validateOne` field by field of `Info`, for any choice of what to record: the modes enter only
  through `Mode.plan`.
-/
namespace Stam.TV

variable {H : Type}

theorem checksumOf_of_ne_nil (h : Text → H) {t : Text} (ht : t ≠ []) : checksumOf h t = some (h t) := by
  cases t with
  | nil => exact absurd rfl ht
  | cons _ _ => rfl

theorem protectWith_eq (h : Text → H) (dc dt : Bool) (t : Text) (i : Info H) :
    protectWith h dc dt t i =
      ⟨i.checksum.or (if dc then checksumOf h t else none), i.text.or (if dt ∧ t ≠ [] then some t else none)⟩ := by
  obtain ⟨ic, it⟩ := i
  unfold protectWith
  congr 1
  · cases ic with
    | some c => simp
    | none =>
      cases dc <;> cases checksumOf h t <;> rfl
  · cases it with
    | some r => simp
    | none => cases dt <;> cases t <;> simp

variable [DecidableEq H]

theorem validateOne_ne_false_iff {h : Text → H} {i : Info H} {t : Text} :
    validateOne h i t ≠ some false ↔
      (∀ c, i.checksum = some c → checksumOf h t = some c) ∧ (∀ r, i.text = some r → r = t) := by
  obtain ⟨ic, it⟩ := i
  cases ic <;> cases it <;> simp [validateOne]

theorem validateOne_eq_true_iff {h : Text → H} {i : Info H} {t : Text} :
    validateOne h i t = some true ↔ validateOne h i t ≠ some false ∧ (i.checksum.isSome ∨ i.text.isSome) := by
  obtain ⟨ic, it⟩ := i
  cases ic with
  | none =>
    cases it with
    | none => simp [validateOne]
    | some r => simp [validateOne]
  | some c =>
    cases it with
    | none => simp [validateOne]
    | some r =>
      -- both recorded: the checksum is asked first, the text only if the checksum agrees
      by_cases hc : checksumOf h t = some c
      · by_cases hr : r = t
        · simp [validateOne, hc, hr]
        · simp [validateOne, hc, hr]
      · simp [validateOne, hc]

theorem validateOne_protectWith_ne_false {h : Text → H} {i : Info H} {t : Text} (dc dt : Bool)
    (hc : validateOne h i t ≠ some false) : validateOne h (protectWith h dc dt t i) t ≠ some false := by
  simp only [validateOne_ne_false_iff, protectWith_eq, Option.or_eq_some_iff, Option.ite_none_right_eq_some] at hc ⊢
  exact ⟨fun c h' => h'.elim (hc.1 c) (·.2.2),
    fun r h' => h'.elim (hc.2 r) fun h => (Option.some.inj h.2.2).symm⟩

theorem Result.add_eq (r : Result) (v : Option Bool) :
    r.add v = ⟨r.valid + if v = some true then 1 else 0, r.invalid + if v = some false then 1 else 0,
      r.missing + if v = none then 1 else 0⟩ := by
  cases v with
  | none => rfl
  | some b => cases b <;> rfl

theorem piece_set_ne (texts : List Text) (r : Nat) (t' : Text) (s : Sel) (hr : s.res ≠ r) :
    piece (texts.set r t') s = piece texts s := by
  unfold piece
  rw [List.getD_eq_getElem?_getD, List.getD_eq_getElem?_getD, List.getElem?_set_ne (Ne.symm hr)]

theorem piece_set_of_agree (texts : List Text) (r : Nat) (t t' : Text) (s : Sel) (hr : texts[r]? = some t)
    (h : s.res = r → ∀ k, s.b ≤ k → k < s.e → t'[k]? = t[k]?) :
    piece (texts.set r t') s = piece texts s := by
  by_cases e : s.res = r
  · unfold piece
    rw [List.getD_eq_getElem?_getD, List.getD_eq_getElem?_getD, e,
      List.getElem?_set_self (List.getElem?_eq_some_iff.mp hr).1, hr]
    exact slice_congr (h e)
  · exact piece_set_ne texts r _ s e

end Stam.TV
