import StamModel.Lemmas.Store
/-
  What "only removes" means (`Sub`, `Shrinks`, `Shrunk`), and that the cascade `removeAnn` removes dependants only
  (`Removed`): it is a sweep over what targets the annotation (`Swept`), then the annotation.
-/
namespace Stam

/-- every live annotation of `s'` is a live annotation of `s` that refers to no more than before -/
def Sub (s s' : State) : Prop :=
  ∀ x a', getLive s'.anns x = some a' → ∃ a, getLive s.anns x = some a ∧ a'.id = a.id ∧ a'.target = a.target ∧
    ∀ k ∈ a'.fwd, k ∈ a.fwd

theorem Sub.trans {s s1 s2 : State} (h1 : Sub s s1) (h2 : Sub s1 s2) : Sub s s2 := by
  intro x a2 hx
  obtain ⟨a1, ha1, e1, e2, hk1⟩ := h2 x a2 hx
  obtain ⟨a, ha, e3, e4, hk⟩ := h1 x a1 ha1
  exact ⟨a, ha, e1.trans e3, e2.trans e4, fun k hk2 => hk k (hk1 k hk2)⟩

theorem Sub.of_mono {s s' : State} (h : ∀ x a, getLive s'.anns x = some a → getLive s.anns x = some a) : Sub s s' :=
  fun x a hx => ⟨a, h x a hx, rfl, rfl, fun _ hk => hk⟩

theorem Sub.of_anns_eq {s s' : State} (h : s'.anns = s.anns) : Sub s s' :=
  Sub.of_mono (fun _ _ hx => h ▸ hx)

structure Shrinks (s s' : State) : Prop where
  sub : Sub s s'
  len : s'.anns.length = s.anns.length
  clean : ∀ y, (getLive s.anns y).isSome → getLive s'.anns y = none →
    ∀ x a, getLive s'.anns x = some a → Key.ann y ∉ a.fwd

theorem Shrinks.of_anns_eq {s s' : State} (h : s'.anns = s.anns) : Shrinks s s' :=
  ⟨Sub.of_anns_eq h, by rw [h], fun y hy hg => by rw [h] at hg; rw [hg] at hy; cases hy⟩

theorem Shrinks.refl (s : State) : Shrinks s s := Shrinks.of_anns_eq rfl

theorem Shrinks.trans {s s1 s2 : State} (h1 : Shrinks s s1) (h2 : Shrinks s1 s2) : Shrinks s s2 := by
  refine ⟨h1.sub.trans h2.sub, by rw [h2.len, h1.len], ?_⟩
  intro y hy hg x a hx
  cases hy1 : getLive s1.anns y with
  | none =>
    obtain ⟨a1, ha1, _, _, hk⟩ := h2.sub x a hx
    intro hc
    exact h1.clean y hy hy1 x a1 ha1 (hk _ hc)
  | some ay => exact h2.clean y (by simp [hy1]) hg x a hx

/-- what every removal operation does -/
def Shrunk (s s' : State) : Prop := Inv s → Inv s' ∧ Shrinks s s'

theorem Shrunk.refl (s : State) : Shrunk s s := fun hi => ⟨hi, Shrinks.refl s⟩

theorem Shrunk.trans {s s1 s2 : State} (h1 : Shrunk s s1) (h2 : Shrunk s1 s2) : Shrunk s s2 := fun hi =>
  ⟨(h2 (h1 hi).1).1, (h1 hi).2.trans (h2 (h1 hi).1).2⟩

theorem Shrunk.of_frame {s s' : State} (h1 : s'.anns = s.anns) (h2 : s'.edges = s.edges) : Shrunk s s' :=
  fun hi => ⟨hi.of_frame h1 h2, Shrinks.of_anns_eq h1⟩

theorem Shrunk.fold {α} {f : State → α → Option State} (hf : ∀ s a s', f s a = some s' → Shrunk s s') :
    ∀ (l : List α) (s s' : State), l.foldl (fun acc a => acc.bind (fun st => f st a)) (some s) = some s' →
      Shrunk s s' := by
  intro l s s' h
  refine List.foldlRecOn (motive := fun acc => ∀ s', acc = some s' → Shrunk s s') l _
    (fun _ e => Option.some.inj e ▸ Shrunk.refl s) ?_ s' h
  intro acc ih a _ s' e
  obtain ⟨s1, h1, h2⟩ := Option.bind_eq_some_iff.1 e
  exact (ih s1 h1).trans (hf s1 a s' h2)

theorem eraseAll_sublist (h : Nat) (ks : List Key) (es : List (Key × Nat)) :
    (ks.foldl (fun es k => eraseEdge es k h) es).Sublist es :=
  List.foldlRecOn (motive := (List.Sublist · es)) ks _ (List.Sublist.refl es) fun _ h _ _ => List.erase_sublist.trans h

theorem mem_eraseAll (h : Nat) : ∀ (ks : List Key) (es : List (Key × Nat)), es.Nodup →
    ∀ e, e ∈ ks.foldl (fun es k => eraseEdge es k h) es ↔ (e ∈ es ∧ ¬ (e.2 = h ∧ e.1 ∈ ks)) := by
  intro ks
  induction ks with
  | nil => intro es _ e; simp
  | cons k ks ih =>
    intro es hn e
    rw [List.foldl_cons, ih (eraseEdge es k h) (hn.erase _), eraseEdge, hn.mem_erase_iff]
    obtain ⟨k', h'⟩ := e
    simp only [List.mem_cons, Prod.mk.injEq, ne_eq]
    constructor
    · rintro ⟨⟨h1, h2⟩, h3⟩
      exact ⟨h2, fun ⟨h4, h5⟩ => h5.elim (fun h5 => h1 ⟨h5, h4⟩) (fun h5 => h3 ⟨h4, h5⟩)⟩
    · rintro ⟨h1, h2⟩
      exact ⟨⟨fun ⟨h3, h4⟩ => h2 ⟨h4, Or.inl h3⟩, h1⟩, fun ⟨h4, h5⟩ => h2 ⟨h4, Or.inr h5⟩⟩

/-- annotation `x` targets annotation `t` (anywhere in its selector) -/
def Targets (s : State) (x t : Nat) : Prop := ∃ a, getLive s.anns x = some a ∧ Key.ann t ∈ a.fwd

/-- `y` depends on `h`: it is `h` or targets something that depends on `h` -/
inductive DependsOn (s : State) (h : Nat) : Nat → Prop
  | self : DependsOn s h h
  | step {y t : Nat} : Targets s y t → DependsOn s h t → DependsOn s h y

theorem DependsOn.mono {s s' : State} {h y : Nat}
    (hm : ∀ x a, getLive s'.anns x = some a → getLive s.anns x = some a)
    (hd : DependsOn s' h y) : DependsOn s h y := by
  induction hd with
  | self => exact .self
  | step ht _ ih => obtain ⟨a, ha, hk⟩ := ht; exact .step ⟨a, hm _ _ ha, hk⟩ ih

theorem DependsOn.trans {s : State} {h d y : Nat} (h1 : DependsOn s h d) (h2 : DependsOn s d y) :
    DependsOn s h y := by
  induction h2 with
  | self => exact h1
  | step ht _ ih => exact .step ht ih

/-- what one successful `removeAnn` guarantees -/
structure Removed (s s' : State) (h : Nat) : Prop where
  inv : Inv s'
  len : s'.anns.length = s.anns.length
  mono : ∀ x a, getLive s'.anns x = some a → getLive s.anns x = some a
  gone : getLive s'.anns h = none
  res : s'.res = s.res
  sets : s'.sets = s.sets
  /-- no survivor refers to anything that was removed -/
  clean : ∀ y, (getLive s.anns y).isSome → getLive s'.anns y = none →
    ∀ x a, getLive s'.anns x = some a → Key.ann y ∉ a.fwd
  /-- only dependants of `h` were removed -/
  dep : ∀ y, (getLive s.anns y).isSome → getLive s'.anns y = none → DependsOn s h y

/-- `Removed` for a list of roots -/
structure Swept (s s' : State) (ds : List Nat) : Prop where
  inv : Inv s'
  len : s'.anns.length = s.anns.length
  mono : ∀ x a, getLive s'.anns x = some a → getLive s.anns x = some a
  gone : ∀ d ∈ ds, getLive s'.anns d = none
  res : s'.res = s.res
  sets : s'.sets = s.sets
  clean : ∀ y, (getLive s.anns y).isSome → getLive s'.anns y = none →
    ∀ x a, getLive s'.anns x = some a → Key.ann y ∉ a.fwd
  dep : ∀ y, (getLive s.anns y).isSome → getLive s'.anns y = none → ∃ d ∈ ds, DependsOn s d y

theorem Swept.shrinks {s s' : State} {ds : List Nat} (r : Swept s s' ds) : Shrinks s s' :=
  ⟨Sub.of_mono r.mono, r.len, r.clean⟩

theorem Swept.refl {s : State} (hi : Inv s) {ds : List Nat} (hd : ∀ d ∈ ds, getLive s.anns d = none) : Swept s s ds :=
  ⟨hi, rfl, fun _ _ h => h, hd, rfl, rfl, (Shrinks.refl s).clean, fun y hy hg => by rw [hg] at hy; cases hy⟩

theorem Removed.swept {s s' : State} {h : Nat} (r : Removed s s' h) : Swept s s' [h] :=
  ⟨r.inv, r.len, r.mono, fun _ hd => List.mem_singleton.1 hd ▸ r.gone, r.res, r.sets, r.clean,
    fun y hy hg => ⟨h, List.mem_singleton_self h, r.dep y hy hg⟩⟩

theorem Swept.removed {s s' : State} {ds : List Nat} (r : Swept s s' ds) {h : Nat} (hh : h ∈ ds)
    (hd : ∀ d ∈ ds, DependsOn s h d) : Removed s s' h :=
  ⟨r.inv, r.len, r.mono, r.gone h hh, r.res, r.sets, r.clean,
    fun y hy hg => let ⟨d, hdm, hdep⟩ := r.dep y hy hg; (hd d hdm).trans hdep⟩

theorem Swept.append {s s1 s' : State} {ds ds' : List Nat} (r : Swept s s1 ds) (r' : Swept s1 s' ds') :
    Swept s s' (ds ++ ds') where
  inv := r'.inv
  len := r'.len.trans r.len
  mono := fun x a hx => r.mono x a (r'.mono x a hx)
  gone := by
    intro x hx
    rcases List.mem_append.1 hx with hx | hx
    · cases hg : getLive s'.anns x with
      | none => rfl
      | some a =>
        have := r'.mono x a hg
        rw [r.gone x hx] at this
        cases this
    · exact r'.gone x hx
  res := r'.res.trans r.res
  sets := r'.sets.trans r.sets
  clean := (r.shrinks.trans r'.shrinks).clean
  dep := by
    intro y hy hg
    cases hy1 : getLive s1.anns y with
    | none =>
      obtain ⟨d, hd, hdep⟩ := r.dep y hy hy1
      exact ⟨d, List.mem_append_left _ hd, hdep⟩
    | some ay =>
      obtain ⟨d, hd, hdep⟩ := r'.dep y (by simp [hy1]) hg
      exact ⟨d, List.mem_append_right _ hd, hdep.mono r.mono⟩

theorem Swept.not_root {s s' : State} {ds : List Nat} (r : Swept s s' ds) {x : Nat} {a : AnnM}
    (hx : getLive s'.anns x = some a) : x ∉ ds := by
  intro h
  rw [r.gone x h] at hx
  cases hx

theorem Swept.not_key {s s' : State} {k : Key} (hi : Inv s) (r : Swept s s' (s.lookup k)) {x : Nat} {a : AnnM}
    (hx : getLive s'.anns x = some a) : k ∉ a.fwd :=
  fun hk => r.not_root hx ((mem_lookup s k x).2 ((hi.mem k x).2 ⟨a, r.mono x a hx, hk⟩))

theorem Swept.shrunk {s s' : State} {ds : List Nat} (r : Swept s s' ds) : Inv s' ∧ Shrinks s s' :=
  ⟨r.inv, r.shrinks⟩

/-- how a removal operation closes; `h0` is what went before, `res'` and `sets'` what it makes of them -/
theorem Swept.filter_dead {s0 s s' : State} {ds : List Nat} (h0 : Shrinks s0 s) (r : Swept s s' ds) (p : Key → Bool)
    (hp : ∀ x a, getLive s'.anns x = some a → ∀ k ∈ a.fwd, p k = true)
    (res' : List (Option ResM)) (sets' : List (Option SetM)) :
    Inv { res := res', sets := sets', anns := s'.anns, edges := s'.edges.filter (fun e => p e.1) } ∧
    Shrinks s0 { res := res', sets := sets', anns := s'.anns, edges := s'.edges.filter (fun e => p e.1) } := by
  refine ⟨⟨?_, List.Pairwise.filter _ r.inv.nodup, List.Pairwise.filter _ r.inv.sorted⟩,
    h0.trans (r.shrinks.trans (Shrinks.of_anns_eq rfl))⟩
  intro k h
  simp only [List.mem_filter, r.inv.mem]
  constructor
  · rintro ⟨h1, _⟩
    exact h1
  · rintro ⟨a, ha, hk⟩
    exact ⟨⟨a, ha, hk⟩, hp h a ha k hk⟩

theorem Swept.filter_key {s0 s s' : State} {k : Key} (h0 : Shrinks s0 s) (hi : Inv s) (r : Swept s s' (s.lookup k))
    (res' : List (Option ResM)) (sets' : List (Option SetM)) :
    Inv { res := res', sets := sets', anns := s'.anns, edges := s'.edges.filter (fun e => e.1 != k) } ∧
    Shrinks s0 { res := res', sets := sets', anns := s'.anns, edges := s'.edges.filter (fun e => e.1 != k) } := by
  refine r.filter_dead h0 (fun k' => k' != k) ?_ res' sets'
  intro x a hx k' hk
  simp only [bne_iff_ne, ne_eq]
  rintro rfl
  exact r.not_key hi hx hk

/-- `f` stands for `removeAnn` at any fuel -/
theorem fold_removed (f : State → Nat → Option State)
    (hf : ∀ s d s', Inv s → (getLive s.anns d).isSome → f s d = some s' → Removed s s' d) :
    ∀ (ds : List Nat) (s s' : State), Inv s →
    ds.foldl (fun acc d => acc.bind (fun st => if (getLive st.anns d).isSome then f st d else some st)) (some s) = some s' →
    Swept s s' ds := by
  intro ds s s' hi h
  refine foldl_prefix_induction _ (fun pre acc => ∀ s', acc = some s' → Swept s s' pre) (some s)
    (fun _ e => Option.some.inj e ▸ Swept.refl hi nofun) ?_ ds s' h
  intro pre acc d ih s' e
  obtain ⟨s1, h1, h2⟩ := Option.bind_eq_some_iff.1 e
  have sw := ih s1 h1
  split at h2
  · next hl => exact sw.append (hf s1 d s' sw.inv hl h2).swept
  · next hl =>
    cases h2
    exact sw.append (Swept.refl sw.inv (ds := [d]) (by simpa using hl))

theorem Inv.tombstone {st : State} (hi : Inv st) {h : Nat} {a : AnnM} (hla : getLive st.anns h = some a)
    (hno : ∀ x a', getLive st.anns x = some a' → Key.ann h ∉ a'.fwd) :
    Inv { st with anns := setAt st.anns h none,
                  edges := a.fwd.foldl (fun es k => eraseEdge es k h) (st.edges.filter (fun e => e.1 != Key.ann h)) } := by
  have hn : (st.edges.filter (fun e => e.1 != Key.ann h)).Nodup := List.Pairwise.filter _ hi.nodup
  refine ⟨?_, hn.sublist (eraseAll_sublist h _ _),
    List.Pairwise.sublist (eraseAll_sublist h _ _) (List.Pairwise.filter _ hi.sorted)⟩
  intro k x
  simp only [mem_eraseAll h _ _ hn, List.mem_filter, bne_iff_ne, ne_eq, hi.mem,
    getLive_setAt_of_lt (getLive_lt _ _ _ hla)]
  split
  · rename_i hx
    subst hx
    rw [hla]
    constructor
    · rintro ⟨⟨⟨_, ⟨⟩, hk⟩, _⟩, h3⟩
      exact absurd ⟨rfl, hk⟩ h3
    · rintro ⟨_, ⟨⟩, _⟩
  · rename_i hx
    constructor
    · rintro ⟨⟨h1, _⟩, _⟩
      exact h1
    · rintro ⟨a', ha', hk⟩
      exact ⟨⟨⟨a', ha', hk⟩, fun hc => hno x a' ha' (hc ▸ hk)⟩, fun hc => hx hc.1⟩

theorem Removed.tombstone {st : State} (hi : Inv st) {h : Nat} {a : AnnM} (hla : getLive st.anns h = some a)
    (hno : ∀ x a', getLive st.anns x = some a' → Key.ann h ∉ a'.fwd) :
    Removed st { st with anns := setAt st.anns h none,
                         edges := a.fwd.foldl (fun es k => eraseEdge es k h) (st.edges.filter (fun e => e.1 != Key.ann h)) }
      h := by
  have hget := getLive_setAt_of_lt (getLive_lt _ _ _ hla) none
  have hmono : ∀ x a', getLive (setAt st.anns h none) x = some a' → getLive st.anns x = some a' :=
    fun _ _ => getLive_of_setAt_none
  have hlast : ∀ y, (getLive st.anns y).isSome → getLive (setAt st.anns h none) y = none → y = h := by
    intro y hy hg
    rw [hget] at hg
    split at hg
    · assumption
    · rw [hg] at hy
      cases hy
  exact ⟨hi.tombstone hla hno, length_setAt _ _ _, hmono, by rw [hget, if_pos rfl], rfl, rfl,
    fun y hy hg x a' hx => hlast y hy hg ▸ hno x a' (hmono x a' hx), fun y hy hg => hlast y hy hg ▸ .self⟩

theorem removeAnn_removed : ∀ (fuel : Nat) (s s' : State) (h : Nat), Inv s →
    State.removeAnn fuel s h = some s' → Removed s s' h := by
  intro fuel
  induction fuel with
  | zero => intro s s' h _ hr; simp [State.removeAnn] at hr
  | succ fuel ih =>
    intro s s' h hi hr
    simp only [State.removeAnn] at hr
    split at hr
    · cases hr
    obtain ⟨st, hfold, hr⟩ := Option.bind_eq_some_iff.1 hr
    -- first a sweep over what targets `h`, after which nothing does; then `h` alone
    have sw := fold_removed (State.removeAnn fuel) (fun s d s' hi _ hf => ih s s' d hi hf) _ s st hi hfold
    split at hr
    · cases hr
    rename_i a hla
    cases hr
    refine (sw.append (Removed.tombstone sw.inv hla (fun x a' => sw.not_key hi)).swept).removed (by simp) ?_
    intro d hd
    rcases List.mem_append.1 hd with hd | hd
    · exact .step ((hi.mem _ _).1 ((mem_lookup s _ d).1 hd)) .self
    · cases List.mem_singleton.1 hd
      exact .self

theorem removeAll_swept {hs : List Nat} {s s' : State} (hi : Inv s) (h : s.removeAll hs = some s') : Swept s s' hs :=
  fold_removed (fun st d => st.removeAnn st.fuel d) (fun s d s' hi _ hf => removeAnn_removed _ s s' d hi hf) hs s s' hi h

theorem removeAnn_shrunk {fuel : Nat} {s s' : State} {h : Nat} (hr : State.removeAnn fuel s h = some s') :
    Shrunk s s' :=
  fun hi => (removeAnn_removed fuel s s' h hi hr).swept.shrunk

end Stam
