import StamModel.StamqlQ
import StamModel.Lemmas.List
/-
  The texts of STAMQL apart from its grammar: white space and `trim`, words, texts that do not end in white space.
-/
namespace Stam.QL

theorem trimStart_eq_dropWhile (s : Str) : trimStart s = s.dropWhile isWs := by
  induction s with
  | nil => rfl
  | cons c cs ih => simp only [trimStart, List.dropWhile_cons, ih]

theorem trimStart_cons_nonws {c : Char} {s : Str} (h : isWs c = false) : trimStart (c :: s) = c :: s := by
  simp [trimStart, h]

theorem trimStart_space (s : Str) : trimStart (' ' :: s) = trimStart s := by
  simp [trimStart, show isWs ' ' = true by decide]

theorem split_is_ws (c : Char) (h : isSplit c = true) : isWs c = true := by
  have : c = ' ' ∨ c = '\n' ∨ c = '\r' ∨ c = '\t' := by simpa [isSplit] using h
  rcases this with rfl | rfl | rfl | rfl <;> decide

theorem trimStart_ws_append (w s : Str) (hw : ∀ c ∈ w, isWs c = true) : trimStart (w ++ s) = trimStart s := by
  rw [trimStart_eq_dropWhile, List.dropWhile_append_of_pos hw, ← trimStart_eq_dropWhile]

/-- the form in which `trim_start` of a printed text is computed -/
theorem trimStart_ws_cons (w : Str) (c : Char) (r : Str) (hw : ∀ x ∈ w, isWs x = true) (hc : isWs c = false) :
    trimStart (w ++ c :: r) = c :: r := by
  rw [trimStart_ws_append w _ hw, trimStart_cons_nonws hc]

theorem trimStart_head_nonws (s : Str) (c : Char) (r : Str) (h : trimStart s = c :: r) : isWs c = false := by
  have := List.head?_dropWhile_not isWs s
  rw [← trimStart_eq_dropWhile, h] at this
  exact this

theorem trimStart_idem (s : Str) : trimStart (trimStart s) = trimStart s := by
  cases h : trimStart s with
  | nil => rfl
  | cons c r => exact trimStart_cons_nonws (trimStart_head_nonws s c r h)

def Starts (t : Str) : Prop := ∃ c r, t = c :: r ∧ isWs c = false

theorem Starts.ne_nil {t : Str} (ht : Starts t) : t ≠ [] := by
  obtain ⟨c, r, rfl, _⟩ := ht
  simp

theorem Starts.append {t : Str} (ht : Starts t) (y : Str) : Starts (t ++ y) := by
  obtain ⟨c, r, rfl, hc⟩ := ht
  exact ⟨c, r ++ y, rfl, hc⟩

theorem trimStart_starts (t : Str) {y : Str} (ht : Starts t) : trimStart (t ++ y) = t ++ y := by
  obtain ⟨c, r, rfl, hc⟩ := ht
  exact trimStart_cons_nonws hc

def Word (w : Str) : Prop := ∀ x ∈ w, isSplit x = false

def SplitStart (y : Str) : Prop := y = [] ∨ ∃ c r, y = c :: r ∧ isSplit c = true

theorem splitStart_cons {c : Char} {y : Str} (h : isSplit c = true) : SplitStart (c :: y) := Or.inr ⟨c, y, rfl, h⟩

theorem splitStart_space {y : Str} : SplitStart (' ' :: y) := splitStart_cons (by decide)

theorem firstWord_append {w y : Str} (hw : Word w) (hy : SplitStart y) : firstWord (w ++ y) = w := by
  unfold firstWord
  rw [List.takeWhile_append_of_pos fun x hx => congrArg not (hw x hx)]
  rcases hy with rfl | ⟨c, r, rfl, hc⟩
  · exact List.append_nil w
  · rw [List.takeWhile_cons_of_neg (by simp [hc]), List.append_nil]

/-- `split(…).next()` and `t[n..]` on a text `t` that begins with the word `kw` of `n` characters -/
theorem word_text {kw : Str} {n : Nat} (hw : Word kw) (hn : kw.length = n) {t Z : Str} (ht : t = kw ++ Z) (hZ : SplitStart Z) :
    firstWord t = kw ∧ t.drop n = Z := by
  subst ht hn
  exact ⟨firstWord_append hw hZ, List.drop_left⟩

theorem firstWord_self (w : Str) (hw : Word w) : firstWord w = w := by
  have := firstWord_append hw (Or.inl rfl)
  simpa using this

theorem firstWord_nil_of_trimmed (s : Str) (h : firstWord (trimStart s) = []) : trimStart s = [] := by
  cases ht : trimStart s with
  | nil => rfl
  | cons c r =>
    have hc := trimStart_head_nonws s c r ht
    rw [ht] at h
    have hs : isSplit c = false := by
      cases hsp : isSplit c with
      | false => rfl
      | true => rw [split_is_ws c hsp] at hc; exact absurd hc (by decide)
    simp [firstWord, List.takeWhile, hs] at h

theorem firstWord_head {s : Str} {c : Char} (h : firstWord s = [c]) : s.head? = some c := by
  cases s with
  | nil => simp [firstWord] at h
  | cons d r =>
    simp only [firstWord, List.takeWhile] at h
    split at h
    · simp only [List.cons.injEq] at h; simp [h.1]
    · simp at h

def NoTrailWs (s : Str) : Prop := ∀ c, s.getLast? = some c → isWs c = false

theorem trimEnd_of_last (s : Str) (h : NoTrailWs s) : trimEnd s = s := by
  unfold trimEnd
  rw [trimStart_eq_dropWhile]
  exact reverse_dropWhile_reverse isWs s h

theorem noTrail_nil : NoTrailWs [] := fun _ h => by simp at h

theorem noTrail_of_getLast (t : Str) (c : Char) (h : t.getLast? = some c) (hc : isWs c = false) : NoTrailWs t := by
  intro x hx
  rw [h] at hx
  cases hx
  exact hc

theorem noTrail_of_all {x : Str} (h : ∀ c ∈ x, isWs c = false) : NoTrailWs x := by
  intro c hc
  exact h c (List.mem_of_getLast? hc)

theorem noTrail_suffix (a b : Str) (hb : b ≠ []) (h : NoTrailWs b) : NoTrailWs (a ++ b) := by
  intro x hx
  rw [List.getLast?_append, List.getLast?_eq_some_getLast hb, Option.some_or, ← List.getLast?_eq_some_getLast hb] at hx
  exact h x hx

theorem noTrail_append (a b : Str) (ha : NoTrailWs a) (hb : NoTrailWs b) : NoTrailWs (a ++ b) := by
  by_cases he : b = []
  · subst he; simpa using ha
  · exact noTrail_suffix a b he hb

theorem noTrail_append_cons (a rest : Str) (c : Char) (hc : isWs c = false) (hr : NoTrailWs rest) : NoTrailWs (a ++ c :: rest) := by
  rw [show a ++ c :: rest = (a ++ [c]) ++ rest by simp]
  exact noTrail_append _ _ (noTrail_suffix a [c] (by simp) (noTrail_of_all (by simpa using hc))) hr

theorem trimEnd_ws_append (c w : Str) (hc : NoTrailWs c) (hw : ∀ x ∈ w, isWs x = true) : trimEnd (c ++ w) = c := by
  unfold trimEnd
  rw [List.reverse_append, trimStart_ws_append _ _ (fun x hx => hw x (List.mem_reverse.mp hx))]
  exact trimEnd_of_last c hc

theorem trim_append_ws (c w : Str) (hs : Starts c) (hc : NoTrailWs c) (hw : ∀ x ∈ w, isWs x = true) : trim (c ++ w) = c := by
  unfold trim
  rw [trimStart_starts c hs]
  exact trimEnd_ws_append c w hc hw

theorem trim_id (c : Char) (t : Str) (hc : isWs c = false) (h : NoTrailWs (c :: t)) : trim (c :: t) = c :: t := by
  simpa using trim_append_ws (c :: t) [] ⟨c, t, rfl, hc⟩ h (by simp)

theorem dropByte_ascii (c : Char) (r : Str) (h : c.toNat < 128) : dropByte (c :: r) = .ok r := by
  simp [dropByte, h]

end Stam.QL
