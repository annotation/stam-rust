import StamModel.JsonSel
import StamModel.Lemmas.Out
/-
  Reading the JSON objects of JsonSel.lean member by member. The member names are `"…".toList` of literals and stay
  folded (`kType`, …) in every goal: a comparison, `match` or unification on the unfolded form makes `whnf` decode them.
-/
namespace Stam.JS
open Stam.Csv

theorem lit_bne {a b : String} (h : a ≠ b) : (a.toList == b.toList) = false :=
  beq_eq_false_iff_ne.2 (mt String.toList_inj.1 h)

theorem kType_kValue : (kType == kValue) = false := lit_bne (by decide)
theorem kType_kBegin : (kType == kBegin) = false := lit_bne (by decide)
theorem kType_kEnd : (kType == kEnd) = false := lit_bne (by decide)
theorem kBegin_kEnd : (kBegin == kEnd) = false := lit_bne (by decide)
theorem kType_kResource : (kType == kResource) = false := lit_bne (by decide)
theorem kType_kOffset : (kType == kOffset) = false := lit_bne (by decide)
theorem kResource_kOffset : (kResource == kOffset) = false := lit_bne (by decide)
theorem kType_kAnnotation : (kType == kAnnotation) = false := lit_bne (by decide)
theorem kAnnotation_kOffset : (kAnnotation == kOffset) = false := lit_bne (by decide)
theorem kType_kSet : (kType == kSet) = false := lit_bne (by decide)
theorem kType_kKey : (kType == kKey) = false := lit_bne (by decide)
theorem kSet_kKey : (kSet == kKey) = false := lit_bne (by decide)
theorem kType_kData : (kType == kData) = false := lit_bne (by decide)
theorem kSet_kData : (kSet == kData) = false := lit_bne (by decide)
theorem kType_kSelectors : (kType == kSelectors) = false := lit_bne (by decide)

theorem field_cons_self (k : S) (v : J) (ms : List (S × J)) : field ((k, v) :: ms) k = some v := by
  simp [field]

theorem field_cons_ne {k' k : S} (h : (k' == k) = false) (v : J) (ms : List (S × J)) :
    field ((k', v) :: ms) k = field ms k := by
  simp [field, h]

theorem field_nil (k : S) : field [] k = none := rfl

theorem strField_cons_self (k s : S) (ms : List (S × J)) : strField ((k, .str s) :: ms) k = .ok s := by
  simp only [strField, field_cons_self]

theorem strField_cons_ne {k' k : S} (h : (k' == k) = false) (v : J) (ms : List (S × J)) :
    strField ((k', v) :: ms) k = strField ms k := by
  simp only [strField, field_cons_ne h]

theorem subJ_obj (s : Sub) : ∃ ms, subJ s = .obj ((kType, .str (kindStr s.kind)) :: ms) := by
  rcases s with ⟨r, b, e⟩ | ⟨a, _ | ⟨b, e⟩⟩ | r | d | ⟨d, k⟩ | ⟨d, x⟩ <;> exact ⟨_, rfl⟩

theorem depth_pos (v : DVJ) : 0 < v.depth := by
  cases v <;> simp only [DVJ.depth] <;> omega

end Stam.JS
