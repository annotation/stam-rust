import StamModel.CborModel
import StamModel.Lemmas.List
/- The derive scheme of CborModel.lean as an association list: what `encodeFields` writes has the keys `writtenIdx`. -/
namespace Stam.Cbor

variable {V : Type}

theorem encodeFields_map_fst : ∀ (fs : List FieldS) (vals : List V), fs.length ≤ vals.length →
    (encodeFields fs vals).map (·.1) = writtenIdx fs
  | [], _, _ => rfl
  | g :: gs, [], h => by simp at h
  | g :: gs, w :: ws, h => by
    have ih := encodeFields_map_fst gs ws (Nat.le_of_succ_le_succ h)
    simp only [encodeFields, writtenIdx] at ih ⊢
    cases hs : g.skip <;> cases hi : g.idx <;> simp [hs, hi, ih]

theorem lookupIdx_encodeFields {fs : List FieldS} {vals : List V} (hlen : vals.length = fs.length)
    (hnd : (writtenIdx fs).Nodup) {f : FieldS} {v : V} (hm : (f, v) ∈ fs.zip vals) (hs : f.skip = false)
    {i : Nat} (hi : f.idx = some i) : lookupIdx (encodeFields fs vals) i = some v := by
  have hmem : (i, v) ∈ encodeFields fs vals := List.mem_filterMap.2 ⟨(f, v), hm, by simp [hs, hi]⟩
  have hkeys : ((encodeFields fs vals).filterMap fun e => some e.1).Nodup := by
    rw [List.filterMap_eq_map', encodeFields_map_fst fs vals (Nat.le_of_eq hlen.symm)]
    exact hnd
  have := find?_key (fun e : Nat × V => some e.1) hkeys hmem rfl
  simp only [Option.some_beq_some] at this
  rw [lookupIdx, this]
  rfl

end Stam.Cbor
