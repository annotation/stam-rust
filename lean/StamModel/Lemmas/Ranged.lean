import StamModel.Ranged
/- What an internal range `b ..= e` of Ranged.lean hands out, as a map over `List.range (e + 1 - b)`. -/
namespace Stam.Ranged

theorem range_one {α} (f : Nat → α) (b : Nat) : (List.range (b + 1 - b)).map (fun i => f (b + i)) = [f b] := by
  rw [Nat.add_sub_cancel_left]
  rfl

theorem range_grow {α} (f : Nat → α) {b e : Nat} (h : b ≤ e + 1) :
    (List.range (e + 1 + 1 - b)).map (fun i => f (b + i)) = (List.range (e + 1 - b)).map (fun i => f (b + i)) ++ [f (e + 1)] := by
  rw [Nat.sub_add_comm h, List.range_succ, List.map_append, List.map_singleton, Nat.add_sub_cancel' h]

theorem join_isPlain {whole : Nat → Nat → Nat → Bool} {last s sub : Sel} (hj : join whole last s = some sub) :
    sub.isPlain = false := by
  unfold join at hj
  split at hj <;> (try split at hj) <;> cases hj <;> rfl

end Stam.Ranged
