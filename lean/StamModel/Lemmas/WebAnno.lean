import StamModel.WebAnno
/- The JSON reader on each form of input the writer produces. -/
namespace Stam.WA

theorem hexVal?_hexDigit (k : Nat) (h : k < 16) : hexVal? (hexDigit k) = some k := by
  revert k
  decide

theorem parseChars_plain (c : Char) (r : Str) (hq : c ≠ '"') (hb : c ≠ '\\') (hc : ¬ c.toNat < 0x20) :
    parseChars (c :: r) = (parseChars r).map (fun (s, t) => (c :: s, t)) := by
  -- the last clause's equation asks that no earlier clause matches
  rw [parseChars]
  · rw [if_neg hc]
  all_goals
    intros
    contradiction

theorem parseChars_u00 (n : Nat) (h : n < 0x20) (r : Str) :
    parseChars ('\\' :: 'u' :: '0' :: '0' :: hexDigit (n / 16) :: hexDigit (n % 16) :: r)
      = (parseChars r).map (fun (s, t) => (Char.ofNat n :: s, t)) := by
  have hz : hexVal? '0' = some 0 := by decide
  rw [parseChars, hz, hexVal?_hexDigit _ (by omega), hexVal?_hexDigit _ (by omega)]
  have hn : ((0 * 16 + 0) * 16 + n / 16) * 16 + n % 16 = n := by omega
  simp only [hn]
  rw [if_neg (by omega)]

theorem jsonStr_append (s rest : Str) : jsonStr s ++ rest = '"' :: (escapeJson s ++ '"' :: rest) := by
  simp [jsonStr]

theorem parseChars_escapeChar (c : Char) (r : Str) :
    parseChars (escapeChar c ++ r) = (parseChars r).map (fun (s, t) => (c :: s, t)) := by
  by_cases h : c ∈ ['"', '\\', '\x08', '\x0c', '\n', '\r', '\t']
  · simp only [List.mem_cons, List.not_mem_nil, or_false] at h
    rcases h with rfl | rfl | rfl | rfl | rfl | rfl | rfl <;> rfl
  · simp only [List.mem_cons, List.not_mem_nil, or_false, not_or] at h
    obtain ⟨h1, h2, h3, h4, h5, h6, h7⟩ := h
    -- `split` on an `else if` chain doubles its work with every level; `if_neg` does not
    rw [escapeChar, if_neg h1, if_neg h2, if_neg h3, if_neg h4, if_neg h5, if_neg h6, if_neg h7]
    by_cases hc : c.toNat < 0x20
    · rw [if_pos hc]
      have := parseChars_u00 c.toNat hc r
      rwa [Char.ofNat_toNat] at this
    · rw [if_neg hc]
      exact parseChars_plain c r h1 h2 hc

theorem parseValue_numStart (fuel : Nat) (s : Str) (c : Char) (r : Str) (hs : skipWs s = c :: r)
    (hc : isNumChar c = true) :
    parseValue (fuel + 1) s = some (.num (spanNum (c :: r)).1, (spanNum (c :: r)).2) := by
  rw [parseValue, hs]
  split
  -- `h_6`: the number clause `c :: r`; `h_7`: `[]`; the others start with a fixed non-number character
  case h_6 heq =>
    cases heq
    rw [if_pos hc]
  case h_7 heq => cases heq
  all_goals
    rename_i heq
    cases heq
    exact absurd hc (by decide)

theorem parseElems_close (fuel : Nat) (r r' : Str) (h : skipWs r = ']' :: r') : parseElems fuel r = none := by
  rcases fuel with _ | _ | f
  · rfl
  · rfl
  · rw [parseElems, parseValue, h]
    rfl

/-- a `[` before elements that parse: `parseElems` fails at a `]`, so the array is not taken for the empty one -/
theorem parseValue_arr {fuel : Nat} {s r t : Str} {xs : List J} (hs : skipWs s = '[' :: r)
    (he : parseElems fuel r = some (xs, t)) : parseValue (fuel + 1) s = some (.arr xs, t) := by
  rw [parseValue, hs]
  simp only [he]
  split
  · rename_i r' hr
    rw [parseElems_close fuel r r' hr] at he
    cases he
  · rfl

theorem parseElems_last {fuel : Nat} {s r : Str} (r' : Str) {x : J} (hv : parseValue fuel s = some (x, r))
    (hr : skipWs r = ']' :: r') :
    parseElems (fuel + 1) s = some ([x], r') := by
  rw [parseElems, hv]
  simp only [hr]

theorem parseElems_more {fuel : Nat} {s r : Str} (r' : Str) {x : J} (hv : parseValue fuel s = some (x, r))
    (hr : skipWs r = ',' :: r') :
    parseElems (fuel + 1) s = (parseElems fuel r').map (fun (xs, t) => (x :: xs, t)) := by
  rw [parseElems, hv]
  simp only [hr]

theorem WV.size_pos (v : WV) : 0 < v.size := by
  cases v <;> simp only [WV.size] <;> omega

end Stam.WA
