import StamModel.QueryIter
import StamModel.Lemmas.List
/-
  Lemmas for C08's sub-query clause: the QueryIter state machine without OPTIONAL levels enumerates the nested
  iteration. `below d t` is the specification for a chain of `d` further non-optional levels under `t`.
-/
namespace Stam.QI
variable {α : Type}

/-- rows under `t` with `d` further (non-optional) levels -/
def below : Nat → Tree α → List (List α)
  | 0, t => [[t.label]]
  | d + 1, t => (t.kids.flatMap (below d)).map (t.label :: ·)

def NoOpt (opt : List Bool) : Prop := ∀ i : Nat, opt[i]?.getD false = false

/-- a stack between two calls of `next`: no state is marked done and each holds an item -/
def Good (st : List (St α)) : Prop := ∀ s ∈ st, s.done = false ∧ s.result.isSome = true

/-- a stack as `next_state` finds it: the top state may be fresh (no item yet), everything below it is `Good` -/
def Semi : List (St α) → Prop
  | [] => True
  | s :: rest => s.done = false ∧ Good rest

theorem Good.semi {st : List (St α)} (h : Good st) : Semi st := by
  cases st with
  | nil => trivial
  | cons s rest => exact ⟨(h s (by simp)).1, fun q hq => h q (by simp [hq])⟩

/-- what the iterators on the stack still stand for: for each state, the rows under the items its iterator has left -/
def pendRest (n : Nat) : List (St α) → List (List α)
  | [] => []
  | s :: rest => (s.iter.flatMap (below (n - (rest.length + 1)))).map (row rest ++ ·) ++ pendRest n rest

/-- the rows under the item the top state holds now, then `pendRest` -/
def pendTop (n : Nat) : List (St α) → List (List α)
  | [] => []
  | s :: rest =>
    (match s.result with
      | some t => (below (n - (rest.length + 1)) t).map (row rest ++ ·)
      | none => []) ++ pendRest n (s :: rest)

def fresh (it : List (Tree α)) : St α := { iter := it, result := none, done := false }

/-- what the iterator of the next level yields, given the stack -/
def itOf (roots : List (Tree α)) : List (St α) → List (Tree α)
  | [] => roots
  | s :: _ => match s.result with | some t => t.kids | none => []

/-- the rows still to come from a stack between two calls of `next` -/
def expected (n : Nat) (roots : List (Tree α)) : List (St α) → List (List α)
  | [] => roots.flatMap (below (n - 1))
  | s :: rest => pendTop n (s :: rest)

theorem nextState_advance (opt : List Bool) (s : St α) (x : Tree α) (it : List (Tree α)) (rest : List (St α))
    (hs : s.done = false) (hit : s.iter = x :: it) :
    nextState opt (s :: rest) (rest.length + 1) =
      ({ s with iter := it, result := some x } :: rest, rest.length + 1, .newState) := by
  simp [nextState, hs, hit]

theorem nextState_pop (opt : List Bool) (hopt : NoOpt opt) (s : St α) (rest : List (St α))
    (hs : s.done = false) (hit : s.iter = []) :
    nextState opt (s :: rest) (rest.length + 1) = nextState opt rest rest.length := by
  simp [nextState, hs, hit, hopt rest.length]

theorem row_cons (s : St α) (rest : List (St α)) :
    row (s :: rest) = row rest ++ (match s.result with | some t => [t.label] | none => []) := by
  cases h : s.result <;> simp [row, List.filterMap_append, h]

theorem pendTop_advance (n : Nat) (s : St α) (x : Tree α) (it : List (Tree α)) (rest : List (St α))
    (hit : s.iter = x :: it) :
    pendTop n ({ s with iter := it, result := some x } :: rest) = pendRest n (s :: rest) := by
  simp [pendTop, pendRest, hit, List.flatMap_cons, List.map_append, List.append_assoc]

theorem descend (n : Nat) (roots : List (Tree α)) (st : List (St α)) (hg : Good st) (hlen : st.length < n) :
    pendRest n (fresh (itOf roots st) :: st) = expected n roots st := by
  cases st with
  | nil => simp [pendRest, fresh, itOf, expected, row]
  | cons s rest =>
    obtain ⟨t, ht⟩ := Option.isSome_iff_exists.mp (hg s (by simp)).2
    have hd : n - (rest.length + 1) = (n - (rest.length + 1 + 1)) + 1 := by
      simp only [List.length_cons] at hlen
      omega
    simp only [pendRest, fresh, itOf, expected, pendTop, ht, List.length_cons]
    rw [hd, below, row_cons, ht]
    simp [List.map_map, Function.comp_def, List.append_assoc]

theorem expected_full (n : Nat) (hn : 1 ≤ n) (roots : List (Tree α)) (st : List (St α)) (hg : Good st)
    (hfull : st.length = n) : expected n roots st = row st :: pendRest n st := by
  cases st with
  | nil =>
    simp at hfull
    omega
  | cons s rest =>
    obtain ⟨t, ht⟩ := Option.isSome_iff_exists.mp (hg s (by simp)).2
    have hd : n - (rest.length + 1) = 0 := by
      simp at hfull
      omega
    simp [expected, pendTop, ht, hd, below, row_cons]

theorem nu_fresh (n : Nat) (roots : List (Tree α)) (st : List (St α)) :
    nu n (fresh (itOf roots st) :: st) = mu n roots st := by
  cases st with
  | nil => simp [nu, fresh, itOf, mu]
  | cons s rest =>
    cases h : s.result <;> simp [nu, fresh, itOf, mu, h, countForest]

theorem initState_eq (opt : List Bool) (roots : List (Tree α)) (st : List (St α)) (hg : Good st) :
    initState opt roots st (st.length + 1) = nextState opt (fresh (itOf roots st) :: st) (st.length + 1) := by
  cases st with
  | nil => simp [initState, fresh, itOf]
  | cons s rest =>
    obtain ⟨t, ht⟩ := Option.isSome_iff_exists.mp (hg s (by simp)).2
    have hidx : (s :: rest).reverse[(s :: rest).length + 1 - 2]? = some s := by
      simp
    simp only [initState, hidx]
    simp [fresh, itOf, ht]

/-- `next_state` either leaves a `Good` stack whose pending rows are what the old iterators stood for, with the measure
of `init_all_states` gone down, or every iterator was exhausted and nothing was pending -/
theorem advance (n : Nat) (opt : List Bool) (hopt : NoOpt opt) (roots : List (Tree α)) :
    ∀ (X : List (St α)), Semi X →
      (∃ Y, nextState opt X X.length = (Y, Y.length, .newState) ∧ Good Y ∧ Y.length ≤ X.length ∧
          expected n roots Y = pendRest n X ∧ (Y.length < n → mu n roots Y + 1 = nu n X))
      ∨ (pendRest n X = [] ∧ ∃ p, nextState opt X X.length = ([], p, .allDone)) := by
  intro X
  induction X with
  | nil => exact fun _ => Or.inr ⟨rfl, 0, rfl⟩
  | cons s rest ih =>
    intro ⟨hs, hrest⟩
    cases hit : s.iter with
    | cons x it =>
      refine Or.inl ⟨_, nextState_advance opt s x it rest hs hit, ?_, Nat.le_refl _, pendTop_advance n s x it rest hit, ?_⟩
      · exact fun q hq => (List.mem_cons.mp hq).elim (· ▸ ⟨hs, rfl⟩) (hrest q)
      · -- the item `x` leaves the iterator (one node less) and its children become what the next level may yield
        intro hlt
        simp only [List.length_cons] at hlt
        have hd : n - (rest.length + 1) = (n - (rest.length + 2)) + 1 := by omega
        simp only [mu, nu, hit, countForest, List.map_cons, List.sum_cons]
        rw [hd, count]
        omega
    | nil =>
      have hpend : pendRest n (s :: rest) = pendRest n rest := by simp [pendRest, hit]
      have hnu : nu n (s :: rest) = nu n rest := by simp [nu, hit, countForest]
      rw [List.length_cons, nextState_pop opt hopt s rest hs hit, hpend, hnu]
      rcases ih hrest.semi with ⟨Y, hns, hY, hlen, hexp, hmu⟩ | hdone
      · exact Or.inl ⟨Y, hns, hY, Nat.le_succ_of_le hlen, hexp, hmu⟩
      · exact Or.inr hdone

theorem est_of_lt (n len : Nat) (h : len < n) : est n len = len + 1 := by
  unfold est
  split <;> omega

theorem initAll_full (n : Nat) (hn : 1 ≤ n) (opt : List Bool) (roots : List (Tree α)) (fuel : Nat) (st : List (St α))
    (h : st.length = n) : initAll n opt roots (fuel + 1) st n = (st, n, .newState) := by
  have he : est n n = 1 := by
    unfold est
    split <;> simp
  rw [initAll, he, h, if_neg (by omega)]

theorem initAll_push (n : Nat) (opt : List Bool) (roots : List (Tree α)) (fuel : Nat) (st : List (St α))
    (hg : Good st) (h : st.length < n) :
    initAll n opt roots (fuel + 1) st st.length =
      match nextState opt (fresh (itOf roots st) :: st) (st.length + 1) with
      | (stack', path', .newState) => initAll n opt roots fuel stack' path'
      | r => r := by
  have hhead : ¬ (st.head?.map (·.done)) = some true := by
    cases st with
    | nil => simp
    | cons s rest => simp [(hg s (by simp)).1]
  rw [initAll, est_of_lt n _ h, if_pos (Nat.lt_succ_self _), if_neg hhead, initState_eq opt roots st hg]
  rfl

theorem initAll_spec (n : Nat) (hn : 1 ≤ n) (opt : List Bool) (hopt : NoOpt opt) (roots : List (Tree α)) :
    ∀ (fuel : Nat) (st : List (St α)), Good st → st.length ≤ n → 1 ≤ fuel →
      (st.length < n → mu n roots st + 2 ≤ fuel) →
      (∃ st', initAll n opt roots fuel st st.length = (st', n, .newState) ∧ Good st' ∧ st'.length = n ∧
          expected n roots st = row st' :: pendRest n st')
      ∨ ((∃ st' p, initAll n opt roots fuel st st.length = (st', p, .allDone)) ∧ expected n roots st = []) := by
  intro fuel
  induction fuel with
  | zero => intro st _ _ h1; omega
  | succ fuel ih =>
    intro st hg hlen _ hfuel
    by_cases hfull : st.length = n
    · exact Or.inl ⟨st, hfull ▸ initAll_full n hn opt roots fuel st hfull, hg, hfull,
        expected_full n hn roots st hg hfull⟩
    · have hlt : st.length < n := Nat.lt_of_le_of_ne hlen hfull
      have hfuel := hfuel hlt
      rw [initAll_push n opt roots fuel st hg hlt, ← descend n roots st hg hlt]
      rcases advance n opt hopt roots (fresh (itOf roots st) :: st) ⟨rfl, hg⟩ with
        ⟨Y, hns, hgY, hlenY, hexp, hmu⟩ | ⟨hemp, p, hns⟩
      · rw [List.length_cons] at hns hlenY
        rw [hns, ← hexp]
        rw [nu_fresh] at hmu
        refine ih Y hgY (by omega) (by omega) (fun h => ?_)
        have := hmu h
        omega
      · rw [List.length_cons] at hns
        rw [hns]
        exact Or.inr ⟨⟨[], p, rfl⟩, hemp⟩

theorem run_allDone (n : Nat) (opt : List Bool) (roots : List (Tree α)) (fuel : Nat) (st : List (St α)) (p : Nat) :
    run n opt roots fuel st p .allDone = [] := by
  cases fuel <;> simp [run]

theorem run_spec (n : Nat) (hn : 1 ≤ n) (opt : List Bool) (hopt : NoOpt opt) (roots : List (Tree α)) :
    ∀ (fuel : Nat) (st : List (St α)) (status : Status), Good st → st.length ≤ n → status ≠ .allDone →
      (expected n roots st).length < fuel →
      run n opt roots fuel st st.length status = expected n roots st := by
  intro fuel
  induction fuel with
  | zero => intro st status _ _ _ h; omega
  | succ fuel ih =>
    intro st status hg hlen hstat hfuel
    unfold run
    simp only [hstat, if_false]
    rcases initAll_spec n hn opt hopt roots (mu n roots st + n + 2) st hg hlen (by omega) (fun _ => by omega) with
      ⟨st', hinit, hg', hlen', hexp⟩ | ⟨⟨st', p, hinit⟩, hexp⟩
    · rw [hinit, hexp]
      rw [hexp, List.length_cons] at hfuel
      simp only
      rcases advance n opt hopt roots st' hg'.semi with ⟨Y, hns, hgY, hlenY, hexpY, _⟩ | ⟨hemp, p, hns⟩
      · rw [hlen'] at hns hlenY
        rw [hns, ← hexpY]
        simp only
        rw [ih Y .newState hgY hlenY (by decide) (by rw [hexpY]; omega)]
      · rw [hlen'] at hns
        rw [hns, hemp]
        simp only
        rw [run_allDone]
    · rw [hinit]
      simp only
      exact hexp.symm

/-- the fuel of `rows` counts one level more than there is: a row under `t` is charged to a node at depth `d`, within `count (d + 1) t` -/
theorem length_below_le (d : Nat) : ∀ t : Tree α, (below d t).length ≤ count (d + 1) t := by
  induction d with
  | zero => intro t; simp [below, count]
  | succ d ih =>
    intro t
    rw [below, List.length_map, List.length_flatMap, count]
    exact Nat.le_trans (sum_map_le t.kids fun t _ => ih t) (Nat.le_add_left ..)

theorem rows_eq_below (n : Nat) (hn : 1 ≤ n) (opt : List Bool) (hopt : NoOpt opt) (roots : List (Tree α)) :
    rows n opt roots = roots.flatMap (below (n - 1)) := by
  have hl : (roots.flatMap (below (n - 1))).length ≤ countForest n roots := by
    rw [List.length_flatMap, ← Nat.sub_add_cancel hn, Nat.add_sub_cancel]
    exact sum_map_le roots fun t _ => length_below_le (n - 1) t
  exact run_spec n hn opt hopt roots (countForest n roots + 2) [] .empty (by intro q hq; simp at hq) (by simp) (by decide)
    (Nat.lt_succ_of_le (Nat.le_succ_of_le hl))

theorem rowsAt_replicate_false (d : Nat) : ∀ t : Tree α, rowsAt (List.replicate d false) t = below d t := by
  induction d with
  | zero => intro t; simp [rowsAt, below]
  | succ d ih =>
    intro t
    have hf : rowsAt (α := α) (List.replicate d false) = below d := funext ih
    simp only [List.replicate_succ, rowsAt, hf, below]
    cases h : (t.kids.flatMap (below d)) <;> simp

end Stam.QI
