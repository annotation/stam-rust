import StamModel.Gen.Kernels
import StamModel.Lemmas.Rel
/-
  C13 — the tie between the hand-written relation model (`Stam.relPos`, `Stam.test` in Rel.lean, which the C13 and
  C06 theorems are about) and the definition the translator regenerates from `src/textselection.rs` on every run
  (`Stam.Gen.relPos`). A change of an arm of `TextSelection::test` changes the generated definition, and these
  theorems no longer check.
-/
namespace Stam

/-- two selections are the same when their ends are (the source compares the ends; the model compares the selections) -/
theorem tsel_decide_eq (a c : TSel) : (decide (a.b = c.b) && decide (a.e = c.e)) = decide (a = c) := by
  cases a; cases c; simp

theorem gen_relPos_agrees (op : Op) (a c : TSel) (r : Res) (h : op.neg = false) :
    Gen.relPos op a c r = some (relPos op a c r) := by
  op_cases op <;> cases h <;>
    simp only [Gen.relPos, relPos, ← tsel_decide_eq, decide_eq_true_eq]
  -- left over: an arm that the source writes as an equivalent comparison; it still checks, by linear arithmetic
  all_goals
    rw [Option.some.injEq, Bool.eq_iff_iff]
    simp only [Bool.and_eq_true, Bool.or_eq_true, decide_eq_true_eq]
    omega

/-- on every operator with `negate` the source recurses through `toggle_negate` (no arm of its own) -/
theorem gen_relPos_negated (op : Op) (a c : TSel) (r : Res) (h : op.neg = true) : Gen.relPos op a c r = none := by
  op_cases op <;> cases h <;> rfl

theorem gen_negatedArm_complete :
    Gen.negatedArm = ["after", "before", "embedded", "embeds", "equals", "inset", "overlaps", "precedes",
      "samebegin", "sameend", "samerange", "succeeds"] := rfl

end Stam
