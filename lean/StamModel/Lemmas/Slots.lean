import StamModel.Store
import StamModel.Lemmas.List
/-
  To rewrite a read after a write use `getLive_setAt_of_lt` and `getLive_append_eq`.
-/
namespace Stam

theorem getLive_ge {α} (l : List (Option α)) (h : Nat) (hh : l.length ≤ h) : getLive l h = none := by
  simp [getLive, List.getElem?_eq_none hh]

theorem getLive_eq_some {α} {l : List (Option α)} {h : Nat} {a : α} :
    getLive l h = some a ↔ ∃ hh : h < l.length, l[h] = some a := by
  simp only [getLive, Option.join_eq_some_iff, List.getElem?_eq_some_iff]

theorem getLive_lt {α} (l : List (Option α)) (h : Nat) (a : α) (hl : getLive l h = some a) : h < l.length :=
  (getLive_eq_some.1 hl).1

theorem lt_of_getLive_isSome {α} {l : List (Option α)} {x : Nat} (hx : (getLive l x).isSome) : x < l.length := by
  obtain ⟨a, ha⟩ := Option.isSome_iff_exists.1 hx
  exact getLive_lt _ _ _ ha

theorem getLive_append_eq {α} (l : List (Option α)) (x : Option α) (h : Nat) :
    getLive (l ++ [x]) h = if h = l.length then x else getLive l h := by
  rcases Nat.lt_trichotomy h l.length with h1 | rfl | h1
  · simp [getLive, List.getElem?_append_left h1, Nat.ne_of_lt h1]
  · simp [getLive]
  · rw [if_neg (Nat.ne_of_gt h1), getLive_ge l h (Nat.le_of_lt h1), getLive_ge _ h (by simp; omega)]

theorem getLive_append_lt {α} (l : List (Option α)) (x : Option α) (h : Nat) (hh : h < l.length) :
    getLive (l ++ [x]) h = getLive l h := by
  rw [getLive_append_eq, if_neg (Nat.ne_of_lt hh)]

theorem getLive_append_last {α} (l : List (Option α)) (x : Option α) :
    getLive (l ++ [x]) l.length = x := by
  rw [getLive_append_eq, if_pos rfl]

theorem getLive_append_of_isSome {α} {l : List (Option α)} {x : Option α} {h : Nat} (hh : (getLive l h).isSome) :
    getLive (l ++ [x]) h = getLive l h :=
  getLive_append_lt l x h (lt_of_getLive_isSome hh)

theorem getLive_append {α} (l : List (Option α)) (x : Option α) (h : Nat) :
    getLive (l ++ [x]) h = if h < l.length then getLive l h else if h = l.length then x else none := by
  rw [getLive_append_eq]
  by_cases h2 : h = l.length
  · simp [h2]
  · by_cases h1 : h < l.length
    · simp [h1, h2]
    · simp [h1, h2, getLive_ge l h (by omega)]

theorem getLive_append_some {α} {l : List (Option α)} {a b : α} {h : Nat} :
    getLive (l ++ [some a]) h = some b ↔ getLive l h = some b ∨ (h = l.length ∧ a = b) := by
  rw [getLive_append_eq]
  by_cases h1 : h = l.length
  · simp [h1, getLive_ge]
  · simp [h1]

theorem getLive_setAt {α} (l : List (Option α)) (i h : Nat) (x : Option α) :
    getLive (setAt l i x) h = if i = h ∧ i < l.length then x else getLive l h := by
  simp only [getLive, setAt, List.getElem?_set]
  by_cases h1 : i = h
  · subst h1
    by_cases h2 : i < l.length
    · simp [h2]
    · simp [h2]
  · simp [h1]

theorem getLive_setAt_of_lt {α} {l : List (Option α)} {i : Nat} (hi : i < l.length) (x : Option α) (h : Nat) :
    getLive (setAt l i x) h = if h = i then x else getLive l h := by
  rw [getLive_setAt]
  by_cases e : h = i
  · simp [e, hi]
  · simp [e, Ne.symm e]

theorem getLive_of_setAt_none {α} {l : List (Option α)} {i h : Nat} {a : α}
    (hl : getLive (setAt l i none) h = some a) : getLive l h = some a := by
  rw [getLive_setAt] at hl
  split at hl
  · cases hl
  · exact hl

theorem length_setAt {α} (l : List α) (i : Nat) (x : α) : (setAt l i x).length = l.length :=
  List.length_set

theorem findIdx_eq {α} (l : List (Option α)) (p : α → Bool) : findIdx l p = l.findIdx? (fun o => o.any p) := by
  have : ∀ l i, findIdx.go p l i = List.findIdx?.go (fun o => o.any p) l i := by
    intro l
    induction l with
    | nil => intro i; rfl
    | cons x xs ih => intro i; cases x <;> simp [findIdx.go, List.findIdx?.go, ih]
  exact this l 0

theorem findIdx_some {α} {l : List (Option α)} {p : α → Bool} {j : Nat} (h : findIdx l p = some j) :
    ∃ a, getLive l j = some a ∧ p a = true ∧ ∀ k' a', k' < j → getLive l k' = some a' → p a' = false := by
  rw [findIdx_eq, List.findIdx?_eq_some_iff_getElem] at h
  obtain ⟨hj, hp, hmin⟩ := h
  cases hlj : l[j] with
  | none => simp [hlj] at hp
  | some a =>
    refine ⟨a, getLive_eq_some.2 ⟨hj, hlj⟩, by simpa [hlj] using hp, ?_⟩
    intro k' a' hk' hl'
    obtain ⟨hk, he⟩ := getLive_eq_some.1 hl'
    simpa [he] using hmin k' hk'

theorem findIdx_none {α} {l : List (Option α)} {p : α → Bool} (h : findIdx l p = none) :
    ∀ k a, getLive l k = some a → p a = false := by
  rw [findIdx_eq, List.findIdx?_eq_none_iff] at h
  intro k a hk
  obtain ⟨hh, he⟩ := getLive_eq_some.1 hk
  simpa using h (some a) (he ▸ List.getElem_mem hh)

theorem findIdx_key_some {α β} [BEq β] [LawfulBEq β] {l : List (Option α)} (f : α → β) {b : β} {j : Nat}
    (h : findIdx l (fun a => f a == b) = some j) : ∃ a, getLive l j = some a ∧ f a = b := by
  obtain ⟨a, ha, hp, _⟩ := findIdx_some h
  exact ⟨a, ha, eq_of_beq hp⟩

theorem findIdx_key_none {α β} [BEq β] [LawfulBEq β] {l : List (Option α)} (f : α → β) {b : β}
    (h : findIdx l (fun a => f a == b) = none) : ∀ k a, getLive l k = some a → f a ≠ b := by
  intro k a hk hc
  have := findIdx_none h k a hk
  simp [hc] at this

theorem findIdx_beq_none {α} [BEq α] [LawfulBEq α] {l : List (Option α)} {x : α}
    (h : findIdx l (fun a => a == x) = none) : ∀ i, getLive l i ≠ some x :=
  fun i hi => findIdx_key_none id h i x hi rfl

theorem findIdx_beq_some {α} [BEq α] [LawfulBEq α] {l : List (Option α)} {x : α} {i : Nat}
    (h : findIdx l (fun a => a == x) = some i) : getLive l i = some x := by
  obtain ⟨a, ha, rfl⟩ := findIdx_key_some id h
  exact ha

theorem unique_write {α κ} {f : α → Option κ} {l l' : List (Option α)} {d : Nat} {x : α}
    (hu : ∀ i j a b k, getLive l i = some a → getLive l j = some b → f a = some k → f b = some k → i = j)
    (hdata : ∀ i, getLive l' i = if i = d then some x else getLive l i)
    (hfresh : ∀ k, f x = some k → ∀ i a, getLive l i = some a → f a ≠ some k) :
    ∀ i j a b k, getLive l' i = some a → getLive l' j = some b → f a = some k → f b = some k → i = j := by
  intro i j a b k hi hj ea eb
  rw [hdata] at hi hj
  split at hi <;> split at hj
  · omega
  · cases hi
    exact absurd eb (hfresh k ea j b hj)
  · cases hj
    exact absurd ea (hfresh k eb i a hi)
  · exact hu i j a b k hi hj ea eb

theorem unique_append {α} {l : List (Option α)} {x : α}
    (hu : ∀ i j a, getLive l i = some a → getLive l j = some a → i = j) (hx : ∀ i, getLive l i ≠ some x) :
    ∀ i j a, getLive (l ++ [some x]) i = some a → getLive (l ++ [some x]) j = some a → i = j := by
  intro i j a hi hj
  refine unique_write (f := some) ?_ (getLive_append_eq l (some x)) ?_ i j a a a hi hj rfl rfl
  · rintro i j a b k hi hj ⟨⟩ ⟨⟩
    exact hu i j a hi hj
  · rintro k ⟨⟩ i a hi ⟨⟩
    exact hx i hi

theorem mem_dedupSorted (l : List Nat) (x : Nat) : x ∈ dedupSorted l ↔ x ∈ l := by
  simp [dedupSorted, List.mem_eraseDups, List.mem_mergeSort]

theorem dedupSorted_strict (l : List Nat) : (dedupSorted l).Pairwise (· < ·) :=
  eraseDups_strict _ <| (List.pairwise_mergeSort (le := fun (a b : Nat) => decide (a ≤ b))
    (fun _ _ _ h1 h2 => decide_eq_true (Nat.le_trans (of_decide_eq_true h1) (of_decide_eq_true h2)))
    (fun a b => by simpa using Nat.le_total a b) l).imp of_decide_eq_true

end Stam
