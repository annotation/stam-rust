import StamModel.Collections
import StamModel.Lemmas.List
/-
  `LimitIter` runs in one of three modes, fixed by the signs of begin and end: *direct* (`0 ≤ b`, `0 ≤ e`: items are
  emitted as they arrive), *ring* (`b < 0`, `e = 0`: the buffer holds the last `|b|` items), *buffered* (the rest).
  In direct and buffered mode item `c` is kept iff `Keep b e c`, so after a prefix `pre` the machine holds `kept b e pre`;
  what depends on the total length is cut off by `lfinish`. `Int`/`Nat` conversions go by rewriting: `omega` doubles its
  cases for every `toNat`, `natAbs`, `min`, `max` and truncated `-`.
-/
namespace Stam.Coll

variable {α : Type}

/-- where the window begins in a list of length `n` -/
def lo (b : Int) (n : Nat) : Nat := if 0 ≤ b then b.toNat else n - b.natAbs

/-- where the window ends in a list of length `n` -/
def hi (e : Int) (n : Nat) : Nat := if 0 < e then e.toNat else n - e.natAbs

theorem lo_natCast (k n : Nat) : lo (k : Int) n = k := by
  rw [lo, if_pos (Int.natCast_nonneg k), Int.toNat_natCast]

theorem lo_neg (k n : Nat) (h : 0 < k) : lo (-(k : Int)) n = n - k := by
  rw [lo, if_neg (by omega), Int.natAbs_neg, Int.natAbs_natCast]

theorem hi_natCast (k n : Nat) (h : 0 < k) : hi (k : Int) n = k := by
  rw [hi, if_pos (by omega), Int.toNat_natCast]

/-- either bound of `slice`, clamped to the length as `slice` has it -/
theorem slice_bound {p : Prop} [Decidable p] (k : Int) {n : Nat} (h : ¬ p → k ≤ 0) :
    (if p then min k n else max (n + k) 0 : Int).toNat = min (if p then k.toNat else n - k.natAbs) n := by
  split
  · rcases Int.le_total k n with hk | hk
    · rw [Int.min_eq_left hk, Nat.min_eq_left (Int.toNat_le.2 hk)]
    · rw [Int.min_eq_right hk, Int.toNat_natCast, Nat.min_eq_right ((Int.le_toNat (by omega)).2 hk)]
  · have hk := h ‹_›
    obtain ⟨m, rfl⟩ : ∃ m : Nat, k = -(m : Int) := ⟨k.natAbs, by omega⟩
    rw [Int.natAbs_neg, Int.natAbs_natCast, Nat.min_eq_left (Nat.sub_le _ _), ← Int.sub_eq_add_neg]
    rcases Nat.le_total m n with hm | hm
    · rw [Int.max_eq_left (by omega), Int.toNat_sub]
    · rw [Int.max_eq_right (by omega), Nat.sub_eq_zero_of_le hm]
      rfl

theorem drop_min_of_length_le {ys : List α} {l n : Nat} (h : ys.length ≤ n) : ys.drop (min l n) = ys.drop l := by
  rcases Nat.le_total l n with h' | h'
  · rw [Nat.min_eq_left h']
  · rw [Nat.min_eq_right h', List.drop_eq_nil_of_le h, List.drop_eq_nil_of_le (Nat.le_trans h h')]

/-- `slice` clamps both bounds to the length; `take` and `drop` do that by themselves -/
theorem slice_eq (b e : Int) (xs : List α) :
    slice b e xs = (xs.take (hi e xs.length)).drop (lo b xs.length) := by
  simp only [slice]
  rw [slice_bound e (by omega), slice_bound b (by omega), ← List.take_eq_take_min,
    drop_min_of_length_le (List.length_take_le' ..)]
  rfl

theorem lstep_stopped {b e : Int} {s : LState α} {x : α} (h : s.stopped = true) : lstep b e s x = s := by
  unfold lstep
  rw [if_pos h]

/-- item `c` is in the window as far as that can be told without the total length -/
def Keep (b e : Int) (c : Nat) : Prop := b ≤ c ∧ (e ≤ 0 ∨ (c : Int) < e)

instance (b e : Int) (c : Nat) : Decidable (Keep b e c) := inferInstanceAs (Decidable (_ ∧ _))

/-- direct mode: a kept item is emitted; the first item past the window stops the iterator -/
theorem lstep_direct {b e : Int} {c : Nat} {buf out : List α} {x : α} (hb : 0 ≤ b) (he : 0 ≤ e) :
    lstep b e ⟨c, buf, out, false⟩ x =
      ⟨c + 1, buf, if Keep b e c then out ++ [x] else out, decide (b ≤ c ∧ ¬ Keep b e c)⟩ := by
  unfold Keep
  by_cases h1 : b ≤ c
  · by_cases h2 : e = 0 ∨ (c : Int) < e
    · have : e ≤ 0 ∨ (c : Int) < e := by omega
      simp [lstep, hb, h1, h2, this]
    · have h3 : ¬ (e ≤ 0 ∨ (c : Int) < e) := by omega
      have h4 : 0 < e ∧ e ≤ c := by omega
      simp [lstep, hb, h1, h2, h3, h4]
  · have h2 : ¬ b < 0 := by omega
    simp [lstep, h1, h2]

/-- buffered mode: a kept item goes to the buffer -/
theorem lstep_buffered {b e : Int} {c : Nat} {buf out : List α} {x : α} (hm : b < 0 ∧ e ≠ 0 ∨ e < 0) :
    lstep b e ⟨c, buf, out, false⟩ x = ⟨c + 1, if Keep b e c then buf ++ [x] else buf, out, false⟩ := by
  have h0 : ¬ e = 0 := by omega
  have h1 : ¬ (0 ≤ b ∧ b ≤ c ∧ (c : Int) < e) := by omega
  have h2 : ¬ (0 ≤ b ∧ b ≤ c ∧ 0 < e ∧ e ≤ c) := by omega
  have h3 : ((b < 0 ∨ 0 ≤ b ∧ b ≤ c) ∧ (e ≤ 0 ∨ (c : Int) < e)) ↔ Keep b e c := by unfold Keep; omega
  simp [lstep, h0, h1, h2, h3]

theorem lstep_ring {b : Int} {c : Nat} {buf out : List α} {x : α} (hb : b < 0) :
    lstep b 0 ⟨c, buf, out, false⟩ x = ⟨c + 1, (buf ++ [x]).drop (buf.length + 1 - b.natAbs), out, false⟩ := by
  have h1 : ¬ 0 ≤ b := Int.not_le.2 hb
  simp only [lstep, ge_iff_le, gt_iff_lt, h1, hb, Int.le_refl, false_and, true_or, true_and, and_self, if_true, if_false,
    Bool.false_eq_true, List.length_append, List.length_singleton]
  split
  · rfl
  · rw [Nat.sub_eq_zero_of_le (by omega), List.drop_zero]

/-- what a prefix tells of the window: from `b` on when `0 ≤ b`, before `e` when `0 < e` -/
def kept (b e : Int) (pre : List α) : List α := (if 0 < e then pre.take e.toNat else pre).drop b.toNat

theorem kept_nil (b e : Int) : kept b e ([] : List α) = [] := by
  simp [kept]

theorem kept_snoc {b e : Int} {pre : List α} {x : α} :
    kept b e (pre ++ [x]) = if Keep b e pre.length then kept b e pre ++ [x] else kept b e pre := by
  unfold kept
  by_cases h : Keep b e pre.length
  · have hb : b.toNat ≤ pre.length := Int.toNat_le.2 h.1
    rw [if_pos h]
    split
    · have : pre.length < e.toNat := Int.lt_toNat.2 (by have := h.2; omega)
      rw [List.take_of_length_le (by simp; omega), List.take_of_length_le (by omega), List.drop_append_of_le_length hb]
    · rw [List.drop_append_of_le_length hb]
  · rw [if_neg h]
    rcases (by unfold Keep at h; omega : (pre.length : Int) < b ∨ 0 < e ∧ e ≤ pre.length) with h | ⟨h0, h⟩
    · -- both sides are empty
      have hlen : ∀ l : List α, (if 0 < e then l.take e.toNat else l).length ≤ l.length := fun l => by
        split
        · exact List.length_take_le' ..
        · exact Nat.le_refl _
      have hb : (pre ++ [x]).length ≤ b.toNat := by
        rw [List.length_append]
        exact Int.lt_toNat.2 h
      rw [List.drop_eq_nil_of_le (Nat.le_trans (hlen _) hb),
        List.drop_eq_nil_of_le (Nat.le_trans (hlen _) (Nat.le_of_lt (Int.lt_toNat.2 h)))]
    · rw [if_pos h0, if_pos h0, List.take_append_of_le_length (Int.toNat_le.2 h)]

/-- once stopped the cursor stands still, but nothing more would be kept (`0 < e ≤ pre.length`): cursor and flag stay
existential -/
theorem fold_direct (b e : Int) (hb : 0 ≤ b) (he : 0 ≤ e) (xs : List α) :
    ∃ c st, xs.foldl (lstep b e) ⟨0, [], [], false⟩ = ⟨c, [], kept b e xs, st⟩ := by
  refine (foldl_prefix_induction (lstep b e)
    (fun pre s => ∃ c st, s = ⟨c, [], kept b e pre, st⟩ ∧ (st = false → c = pre.length) ∧
      (st = true → 0 < e ∧ e ≤ pre.length))
    _ ⟨0, false, by rw [kept_nil], fun _ => rfl, nofun⟩ ?_ xs).imp fun c => Exists.imp fun st h => h.1
  rintro pre _ x ⟨c, st, rfl, h1, h2⟩
  rw [kept_snoc, List.length_append, List.length_singleton]
  cases st with
  | true =>
    obtain ⟨h0, hle⟩ := h2 rfl
    rw [lstep_stopped rfl, if_neg (by unfold Keep; omega)]
    exact ⟨c, true, rfl, nofun, fun _ => ⟨h0, by omega⟩⟩
  | false =>
    obtain rfl := h1 rfl
    rw [lstep_direct hb he]
    refine ⟨_, _, rfl, fun _ => rfl, fun h => ?_⟩
    unfold Keep at h
    simp at h
    omega

theorem fold_buffered (b e : Int) (hm : b < 0 ∧ e ≠ 0 ∨ e < 0) (xs : List α) :
    xs.foldl (lstep b e) ⟨0, [], [], false⟩ = ⟨xs.length, kept b e xs, [], false⟩ := by
  refine foldl_prefix_induction (lstep b e) (fun pre s => s = ⟨pre.length, kept b e pre, [], false⟩) _
    (by simp [kept_nil]) ?_ xs
  rintro pre _ x rfl
  rw [lstep_buffered hm, kept_snoc, List.length_append, List.length_singleton]

theorem fold_ring (b : Int) (hb : b < 0) (xs : List α) :
    xs.foldl (lstep b 0) ⟨0, [], [], false⟩ = ⟨xs.length, xs.drop (xs.length - b.natAbs), [], false⟩ := by
  refine foldl_prefix_induction (lstep b 0)
    (fun pre s => s = ⟨pre.length, pre.drop (pre.length - b.natAbs), [], false⟩) _ (by simp) ?_ xs
  rintro pre _ x rfl
  rw [lstep_ring hb, ← List.drop_append_of_le_length (Nat.sub_le ..), List.drop_drop, List.length_drop,
    List.length_append, List.length_singleton]
  generalize b.natAbs = k
  -- what is left is `n - k + (n - (n - k) + 1 - k) = n + 1 - k` for `n = pre.length`
  congr 2
  rcases Nat.le_total pre.length k with h | h
  · rw [Nat.sub_eq_zero_of_le h, Nat.zero_add, Nat.sub_zero]
  · rw [Nat.sub_sub_self h, Nat.add_sub_cancel_left, Nat.sub_add_comm h]

theorem limit_eq_window (b e : Int) (xs : List α) :
    limit b e xs = (xs.take (hi e xs.length)).drop (lo b xs.length) := by
  unfold limit
  by_cases hd : 0 ≤ b ∧ 0 ≤ e
  · obtain ⟨c, st, h⟩ := fold_direct b e hd.1 hd.2 xs
    have hout : lfinish b e ⟨c, [], kept b e xs, st⟩ = kept b e xs := by
      cases st <;> simp [lfinish, hd]
    rw [h, hout]
    unfold kept lo hi
    rw [if_pos hd.1]
    split
    · rfl
    · obtain rfl : e = 0 := by omega
      rw [Int.natAbs_zero, Nat.sub_zero, List.take_length]
  · by_cases hr : b < 0 ∧ e = 0
    · obtain ⟨hb, rfl⟩ := hr
      rw [fold_ring b hb]
      simp [lfinish, lo, hi, hb, Int.not_le.2 hb]
    · have hm : b < 0 ∧ e ≠ 0 ∨ e < 0 := by omega
      rw [fold_buffered b e hm]
      -- what `lfinish` cuts off at the front brings the buffer to `lo`
      have hfront : (if b < 0 ∧ e ≠ 0 then (kept b e xs).drop (min (xs.length - b.natAbs) (kept b e xs).length)
          else kept b e xs) = (if 0 < e then xs.take e.toNat else xs).drop (lo b xs.length) := by
        unfold kept lo
        by_cases hb : 0 ≤ b
        · rw [if_neg (by omega), if_pos hb]
        · rw [if_pos (by omega), if_neg hb, Int.toNat_of_nonpos (by omega), List.drop_zero,
            drop_min_of_length_le (Nat.le_refl _)]
      simp only [lfinish, Bool.false_eq_true, if_false, hd, hfront, List.nil_append]
      unfold hi
      split
      · rw [if_neg (by omega), if_neg (by omega), List.drop_take, List.length_drop, Nat.sub_right_comm]
      · rw [if_pos (by omega), if_pos (by omega)]

end Stam.Coll
