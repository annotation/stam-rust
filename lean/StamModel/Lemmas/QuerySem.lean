import StamModel.QuerySem
import StamModel.Lemmas.Store
/-
  C08's data constraints over any state with the store invariant `Inv`: index-driven and filter evaluation agree because
  the reverse index is exact (C01).
-/
namespace Stam

theorem mem_annsOfData (s : State) (hi : Inv s) (found : List (Nat × Nat)) (h : Nat) :
    h ∈ s.annsOfData found ↔ ∃ a, getLive s.anns h = some a ∧ ∃ p ∈ found, p ∈ a.data := by
  unfold State.annsOfData
  rw [mem_dedupSorted, List.mem_flatMap]
  constructor
  · rintro ⟨p, hp, hl⟩
    rw [mem_lookup, hi.mem] at hl
    obtain ⟨a, ha, hk⟩ := hl
    exact ⟨a, ha, p, hp, by cases p; exact (data_key_mem_fwd a _ _).1 hk⟩
  · rintro ⟨a, ha, p, hp, hd⟩
    refine ⟨p, hp, ?_⟩
    rw [mem_lookup, hi.mem]
    exact ⟨a, ha, by cases p; exact (data_key_mem_fwd a _ _).2 hd⟩

theorem mem_annsWithData (s : State) (found : List (Nat × Nat)) (h : Nat) :
    h ∈ s.annsWithData found ↔ ∃ a, getLive s.anns h = some a ∧ ∃ p ∈ found, p ∈ a.data := by
  unfold State.annsWithData
  rw [List.mem_filter, List.mem_range]
  constructor
  · rintro ⟨_, hp⟩
    cases ha : getLive s.anns h with
    | none => simp [ha] at hp
    | some a =>
      simp only [ha, List.any_eq_true, List.contains_iff_mem] at hp
      obtain ⟨p, hpd, hpf⟩ := hp
      exact ⟨a, rfl, p, hpf, hpd⟩
  · rintro ⟨a, ha, p, hpf, hpd⟩
    refine ⟨getLive_lt _ _ _ ha, ?_⟩
    simp only [ha, List.any_eq_true, List.contains_iff_mem]
    exact ⟨p, hpd, hpf⟩

theorem annsOfData_eq_annsWithData (s : State) (hi : Inv s) (found : List (Nat × Nat)) :
    s.annsOfData found = s.annsWithData found := by
  refine pairwise_lt_ext (l₁ := s.annsOfData found) (l₂ := s.annsWithData found) (dedupSorted_strict _)
    (List.Pairwise.filter _ List.pairwise_lt_range) fun h => ?_
  rw [mem_annsOfData s hi, mem_annsWithData]

theorem mem_annsQuery {s : State} (hi : Inv s) (first : List (Nat × Nat)) (others : List (List (Nat × Nat))) (h : Nat) :
    h ∈ s.annsQuery first others ↔ ∀ f ∈ first :: others, h ∈ s.annsWithData f := by
  unfold State.annsQuery
  rw [mem_foldl_filter (fun found h => (s.annsWithData found).contains h), annsOfData_eq_annsWithData s hi]
  simp only [List.contains_iff_mem, List.mem_cons, forall_eq_or_imp]

theorem annsQuery_strict {s : State} {first : List (Nat × Nat)} {others : List (List (Nat × Nat))} :
    (s.annsQuery first others).Pairwise (· < ·) :=
  List.foldlRecOn (motive := List.Pairwise (· < ·)) others _ (dedupSorted_strict _) fun _ h _ _ => h.filter _

end Stam
