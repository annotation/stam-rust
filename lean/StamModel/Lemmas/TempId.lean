import StamModel.Store
import StamModel.Untrusted
/-
  The store's and the loader's model of src/store.rs resolve_temp_id read the number alike, up to the word bound.
-/
namespace Stam

theorem le_nine_eq_isDigit (c : Char) : ('0' ≤ c && c ≤ '9') = c.isDigit := by
  simp [Char.isDigit, Char.le_def, UInt32.le_iff_toNat_le]

theorem parseUsize_eq (cs : List Char) : parseUsize cs = (UT.digitsToNat? cs).filter (· < 2 ^ 64) := by
  cases cs with
  | nil => rfl
  | cons c cs =>
    simp only [parseUsize, UT.digitsToNat?, le_nine_eq_isDigit, List.isEmpty_cons, Bool.false_or]
    cases (c :: cs).all Char.isDigit <;> simp [Option.filter]

end Stam
