import StamModel.Prelude
/-
  How `bind` and `map` pass results, errors and panics through; panic-freedom as `isPanic = false`.
-/
namespace Stam.Out

@[simp] theorem bind_ok {α β} (a : α) (f : α → Out β) : (ok a).bind f = f a := rfl
@[simp] theorem bind_err {α β} (c : String) (f : α → Out β) : (err c : Out α).bind f = err c := rfl
@[simp] theorem bind_panic {α β} (m : String) (f : α → Out β) : (panic m : Out α).bind f = panic m := rfl

@[simp] theorem isPanic_ok {α} (a : α) : (ok a).isPanic = false := rfl
@[simp] theorem isPanic_err {α} (c : String) : (err c : Out α).isPanic = false := rfl
@[simp] theorem isPanic_panic {α} (m : String) : (panic m : Out α).isPanic = true := rfl

theorem isPanic_eq_false_iff {α} {o : Out α} : o.isPanic = false ↔ ∀ m, o ≠ panic m := by
  cases o <;> simp

theorem isPanic_bind {α β} {o : Out α} {f : α → Out β} (ho : o.isPanic = false)
    (hf : ∀ a, o = ok a → (f a).isPanic = false) : (o.bind f).isPanic = false := by
  cases o with
  | ok a => exact hf a rfl
  | err c => rfl
  | panic m => exact ho

theorem isPanic_map {α β} (f : α → β) (o : Out α) : (o.map f).isPanic = o.isPanic := by
  cases o <;> rfl

theorem bind_eq_ok {α β} (f : α → Out β) (x : Out α) (v : β) : x.bind f = .ok v ↔ ∃ a, x = .ok a ∧ f a = .ok v := by
  cases x <;> simp

theorem map_bind {α β γ} (g : β → γ) (f : α → Out β) (x : Out α) : (x.bind f).map g = x.bind fun a => (f a).map g := by
  cases x <;> rfl

theorem map_eq_ok {α β} (f : α → β) (x : Out α) (v : β) : x.map f = .ok v ↔ ∃ a, x = .ok a ∧ f a = v := by
  cases x <;> simp [map]

theorem map_ne_panic {α β} (f : α → β) (x : Out α) (h : ∀ m, x ≠ .panic m) : ∀ m, x.map f ≠ .panic m := by
  rw [← isPanic_eq_false_iff, isPanic_map, isPanic_eq_false_iff]
  exact h

end Stam.Out
