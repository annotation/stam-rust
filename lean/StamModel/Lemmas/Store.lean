import StamModel.Lemmas.Slots
/-
  What the operations that add things do to the annotations and their reverse index: nothing (`_spec`, `_frame`), or
  one annotation pushed (`Pushed`, `annotate_cases`), which keeps `Inv` and the predicates of C02 and C03.
-/
namespace Stam

/-! ### identifier resolution -/

theorem resolveAnn_id_some {s : State} {i : String} {h : Nat} (hr : s.resolveAnn (.id i) = some h) :
    ∃ a, getLive s.anns h = some a ∧ a.id = some i :=
  findIdx_key_some AnnM.id hr

theorem resolveAnn_id_none {s : State} {i : String} (hr : s.resolveAnn (.id i) = none) :
    ∀ x a, getLive s.anns x = some a → a.id ≠ some i :=
  findIdx_key_none AnnM.id hr

theorem resolveAnn_live (s : State) (r : Ref) (h : Nat) (hr : s.resolveAnn r = some h) :
    (getLive s.anns h).isSome := by
  cases r with
  | id i =>
    obtain ⟨a, ha, _⟩ := resolveAnn_id_some hr
    simp [ha]
  | h n =>
    simp only [State.resolveAnn] at hr
    split at hr
    · cases hr; assumption
    · cases hr

/-! ### the edge list -/

def EdgesLe (es : List (Key × Nat)) (h : Nat) : Prop := ∀ e ∈ es, e.2 ≤ h

def EdgesSorted (es : List (Key × Nat)) : Prop := es.Pairwise (fun e1 e2 => e1.2 ≤ e2.2)

theorem mem_lookup (s : State) (k : Key) (x : Nat) : x ∈ s.lookup k ↔ (k, x) ∈ s.edges := by
  simp only [State.lookup, List.mem_map, List.mem_filter]
  constructor
  · rintro ⟨e, ⟨he, hk⟩, hx⟩
    simp at hk
    cases e; simp at hk hx; subst hk; subst hx; exact he
  · intro h; exact ⟨(k, x), ⟨h, by simp⟩, rfl⟩

/-- why `RelationMap::insert`'s look at the last entry under `k` is a membership test while `h` is the newest handle -/
theorem filter_key_last (es : List (Key × Nat)) (k : Key) (h : Nat)
    (hs : EdgesSorted es) (hle : EdgesLe es h) (hm : (k, h) ∈ es) :
    (es.filter (fun e => e.1 == k)).getLast? = some (k, h) := by
  have hmem : (k, h) ∈ es.filter (fun e => e.1 == k) := List.mem_filter.2 ⟨hm, beq_self_eq_true k⟩
  cases hl : (es.filter (fun e => e.1 == k)).getLast? with
  | none =>
    rw [List.getLast?_eq_none_iff.1 hl] at hmem
    cases hmem
  | some z =>
    obtain ⟨hz, hzk⟩ := List.mem_filter.1 (List.mem_of_getLast? hl)
    obtain ⟨ys, hys⟩ := List.getLast?_eq_some_iff.1 hl
    have hsl : EdgesSorted (ys ++ [z]) := hys ▸ List.Pairwise.filter _ hs
    have h1 : h ≤ z.2 := by
      rw [hys, List.mem_append, List.mem_singleton] at hmem
      rcases hmem with hy | rfl
      · exact (List.pairwise_append.1 hsl).2.2 _ hy z (List.mem_singleton_self z)
      · exact Nat.le_refl _
    rw [show z = (k, h) from Prod.ext (eq_of_beq hzk) (Nat.le_antisymm (hle z hz) h1)]

theorem addEdge_eq (es : List (Key × Nat)) (k : Key) (h : Nat) (hs : EdgesSorted es) (hle : EdgesLe es h) :
    addEdge es k h = if (k, h) ∈ es then es else es ++ [(k, h)] := by
  unfold addEdge
  by_cases hm : (k, h) ∈ es
  · simp [hm, filter_key_last es k h hs hle hm]
  · rw [if_neg hm]
    have : ¬ (((es.filter (fun e => e.1 == k)).getLast?.map (·.2)) == some h) = true := by
      intro hc
      simp only [beq_iff_eq, Option.map_eq_some_iff] at hc
      obtain ⟨e, he, he2⟩ := hc
      have hmem := List.mem_of_getLast? he
      rw [List.mem_filter] at hmem
      have : e = (k, h) := by
        cases e; simp at hmem he2; simp [hmem.2, he2]
      rw [this] at hmem
      exact hm hmem.1
    rw [if_neg this]

theorem addEdge_props (es : List (Key × Nat)) (k : Key) (h : Nat)
    (hs : EdgesSorted es) (hn : es.Nodup) (hle : EdgesLe es h) :
    EdgesSorted (addEdge es k h) ∧ (addEdge es k h).Nodup ∧ EdgesLe (addEdge es k h) h ∧
    ∀ e, e ∈ addEdge es k h ↔ (e ∈ es ∨ e = (k, h)) := by
  rw [addEdge_eq es k h hs hle]
  by_cases hm : (k, h) ∈ es
  · simp only [hm, if_true]
    refine ⟨hs, hn, hle, ?_⟩
    intro e; constructor
    · exact Or.inl
    · rintro (h1 | h1)
      · exact h1
      · rw [h1]; exact hm
  · simp only [hm, if_false]
    refine ⟨?_, ?_, ?_, ?_⟩
    · rw [EdgesSorted, List.pairwise_append]
      refine ⟨hs, by simp, ?_⟩
      intro a ha b hb; simp at hb; subst hb; exact hle a ha
    · rw [List.nodup_append]
      refine ⟨hn, by simp, ?_⟩
      intro a ha b hb; simp at hb; subst hb; intro h1; subst h1; exact hm ha
    · intro e he; simp at he; rcases he with he | he
      · exact hle e he
      · subst he; simp
    · intro e; simp

theorem addEdges_props (ks : List Key) (h : Nat) : ∀ (es : List (Key × Nat)),
    EdgesSorted es → es.Nodup → EdgesLe es h →
    EdgesSorted (addEdges es ks h) ∧ (addEdges es ks h).Nodup ∧ EdgesLe (addEdges es ks h) h ∧
    ∀ e, e ∈ addEdges es ks h ↔ (e ∈ es ∨ (e.2 = h ∧ e.1 ∈ ks)) := by
  intro es hs hn hle
  refine foldl_prefix_induction (fun es k => addEdge es k h) (fun pre es' => EdgesSorted es' ∧ es'.Nodup ∧ EdgesLe es' h ∧
    ∀ e, e ∈ es' ↔ (e ∈ es ∨ (e.2 = h ∧ e.1 ∈ pre))) es ⟨hs, hn, hle, by simp⟩ ?_ ks
  rintro pre es' k ⟨h1, h2, h3, h4⟩
  obtain ⟨g1, g2, g3, g4⟩ := addEdge_props es' k h h1 h2 h3
  refine ⟨g1, g2, g3, fun e => ?_⟩
  rw [g4, h4, or_assoc, List.mem_append, List.mem_singleton, and_or_left, Prod.ext_iff, and_comm (a := e.1 = k)]

/-! ### the keys an annotation is listed under -/

theorem data_key_not_mem_keys (m : SelM) (sh dh : Nat) : Key.data sh dh ∉ m.keys := by
  cases m <;> simp [SelM.keys]

theorem data_key_mem_fwd (a : AnnM) (sh dh : Nat) : Key.data sh dh ∈ a.fwd ↔ (sh, dh) ∈ a.data := by
  simp only [AnnM.fwd, List.mem_append, List.mem_map, List.mem_flatMap]
  constructor
  · rintro (⟨p, hp, he⟩ | ⟨m, _, hk⟩)
    · cases he; exact hp
    · exact absurd hk (data_key_not_mem_keys m sh dh)
  · exact fun h => Or.inl ⟨(sh, dh), h, rfl⟩

theorem ann_key_mem_fwd (a : AnnM) (t : Nat) : Key.ann t ∈ a.fwd ↔ ∃ m ∈ a.target.sels, Key.ann t ∈ m.keys := by
  simp only [AnnM.fwd, List.mem_append, List.mem_map, List.mem_flatMap]
  constructor
  · rintro (⟨_, _, he⟩ | h)
    · cases he
    · exact h
  · exact Or.inr

/-! ### the invariant of C01 -/

/-- the reverse index holds exactly the forward references of the live annotations, each once,
in chronological (= handle) order -/
structure Inv (s : State) : Prop where
  mem : ∀ k h, (k, h) ∈ s.edges ↔ ∃ a, getLive s.anns h = some a ∧ k ∈ a.fwd
  nodup : s.edges.Nodup
  sorted : EdgesSorted s.edges

theorem Inv.lt {s : State} (hi : Inv s) : ∀ e ∈ s.edges, e.2 < s.anns.length := by
  intro e he
  obtain ⟨a, ha, _⟩ := (hi.mem e.1 e.2).1 he
  exact getLive_lt _ _ _ ha

theorem Inv.of_frame {s s' : State} (hi : Inv s) (h1 : s'.anns = s.anns) (h2 : s'.edges = s.edges) : Inv s' := by
  constructor
  · intro k h; rw [h2, h1]; exact hi.mem k h
  · rw [h2]; exact hi.nodup
  · rw [h2]; exact hi.sorted

/-! ### operations that leave annotations and index alone -/

theorem selector_spec {s s' : State} {r : SelReq} {m : SelM} (h : s.selector r = some (s', m)) :
    s'.anns = s.anns ∧ s'.edges = s.edges ∧ ∀ t, Key.ann t ∈ m.keys → (getLive s.anns t).isSome := by
  cases r with
  | res _ | set _ =>
    simp only [State.selector, Option.map_eq_some_iff, Prod.mk.injEq] at h
    obtain ⟨_, _, rfl, rfl⟩ := h
    simp [SelM.keys]
  | ann a =>
    simp only [State.selector, Option.map_eq_some_iff, Prod.mk.injEq] at h
    obtain ⟨x, hx, rfl, rfl⟩ := h
    simpa [SelM.keys] using resolveAnn_live s a x hx
  | key _ _ | data _ _ =>
    simp only [State.selector] at h
    split at h
    · cases h
    · simp only [Option.map_eq_some_iff, Prod.mk.injEq] at h
      obtain ⟨_, _, rfl, rfl⟩ := h
      simp [SelM.keys]
  | text _ _ =>
    simp only [State.selector] at h
    repeat' split at h
    all_goals cases h
    simp [SelM.keys]
  | annoff a _ =>
    simp only [State.selector] at h
    split at h
    · cases h
    · rename_i ah hra
      have hl := resolveAnn_live s a ah hra
      repeat' split at h
      all_goals cases h
      simpa [SelM.keys] using hl
  | nested => cases h

theorem selector_frame (s s' : State) (r : SelReq) (m : SelM) (h : s.selector r = some (s', m)) :
    s'.anns = s.anns ∧ s'.edges = s.edges :=
  ⟨(selector_spec h).1, (selector_spec h).2.1⟩

/-- the state is threaded through, success or not; on success it is the state returned -/
theorem subselectors_spec : ∀ (rs : List SelReq) (s : State),
    (s.subselectors rs).2.anns = s.anns ∧ (s.subselectors rs).2.edges = s.edges ∧
    ∀ s' ms, (s.subselectors rs).1 = some (s', ms) → s' = (s.subselectors rs).2 ∧
      ∀ m ∈ ms, ∀ t, Key.ann t ∈ m.keys → (getLive s.anns t).isSome := by
  intro rs
  induction rs with
  | nil => intro s; simp [State.subselectors]
  | cons r rs ih =>
    intro s
    simp only [State.subselectors]
    cases hsel : s.selector r with
    | none => simp
    | some p =>
      obtain ⟨s1, m⟩ := p
      obtain ⟨f1, f2, f3⟩ := selector_spec hsel
      obtain ⟨i1, i2, i3⟩ := ih s1
      rw [f1] at i1 i3
      rw [f2] at i2
      simp only []
      cases hsub : s1.subselectors rs with
      | mk o sf =>
        rw [hsub] at i1 i2 i3
        cases o with
        | none => exact ⟨i1, i2, by intro _ _ h; cases h⟩
        | some q =>
          obtain ⟨s2, ms⟩ := q
          obtain ⟨rfl, i4⟩ := i3 s2 ms rfl
          refine ⟨i1, i2, ?_⟩
          rintro _ _ ⟨⟩
          refine ⟨rfl, ?_⟩
          intro m' hm'
          rcases List.mem_cons.1 hm' with rfl | hm'
          · exact f3
          · exact i4 m' hm'

theorem mem_insertSel (le : SelM → SelM → Bool) (x : SelM) : ∀ (l : List SelM) (y : SelM),
    y ∈ insertSel le x l ↔ (y = x ∨ y ∈ l) := by
  intro l
  induction l with
  | nil => intro y; simp [insertSel]
  | cons z zs ih =>
    intro y
    simp only [insertSel]
    split
    · simp only [List.mem_cons, ih]
      constructor
      · rintro (h | h | h) <;> simp [h]
      · rintro (h | h | h) <;> simp [h]
    · simp

theorem mem_sortSels (le : SelM → SelM → Bool) (l : List SelM) (y : SelM) : y ∈ sortSels le l ↔ y ∈ l :=
  foldl_prefix_induction _ (fun pre s => y ∈ s ↔ y ∈ pre) [] Iff.rfl
    (fun pre s x h => by rw [mem_insertSel, h, List.mem_append, List.mem_singleton, or_comm]) l

theorem target_spec (s : State) (t : TargetReq) :
    (s.target t).2.anns = s.anns ∧ (s.target t).2.edges = s.edges ∧
    ∀ tm, (s.target t).1 = some tm → ∀ m ∈ tm.sels, ∀ x, Key.ann x ∈ m.keys → (getLive s.anns x).isSome := by
  cases t with
  | simple r =>
    simp only [State.target]
    cases hsel : s.selector r with
    | none => simp
    | some p =>
      obtain ⟨f1, f2, f3⟩ := selector_spec hsel
      refine ⟨f1, f2, ?_⟩
      rintro _ ⟨⟩ m hm
      cases List.mem_singleton.1 hm
      exact f3
  | complex k rs =>
    simp only [State.target]
    obtain ⟨i1, i2, i3⟩ := subselectors_spec rs s
    cases hsub : s.subselectors rs with
    | mk o sf =>
      rw [hsub] at i1 i2 i3
      cases o with
      | none => exact ⟨i1, i2, by intro _ h; cases h⟩
      | some q =>
        obtain ⟨s2, ms⟩ := q
        obtain ⟨rfl, i4⟩ := i3 s2 ms rfl
        refine ⟨i1, i2, ?_⟩
        rintro _ ⟨⟩ m hm
        refine i4 m ?_
        simp only [TargetM.sels] at hm
        split at hm
        · exact hm
        · exact (mem_sortSels _ _ _).1 hm

theorem target_frame (s : State) (t : TargetReq) :
    (s.target t).2.anns = s.anns ∧ (s.target t).2.edges = s.edges :=
  ⟨(target_spec s t).1, (target_spec s t).2.1⟩

theorem insertData_frame (s : State) (d : DataReq) :
    (s.insertData d).2.anns = s.anns ∧ (s.insertData d).2.edges = s.edges := by
  unfold State.insertData
  -- once the dataset is fixed, every branch returns that state, possibly with other `sets`
  cases s.resolveSet d.set
  all_goals
    simp only []
    repeat' split
    all_goals exact ⟨rfl, rfl⟩

theorem insertDataList_frame : ∀ (ds : List DataReq) (s : State),
    (s.insertDataList ds).2.anns = s.anns ∧ (s.insertDataList ds).2.edges = s.edges := by
  intro ds
  induction ds with
  | nil => intro s; simp [State.insertDataList]
  | cons d ds ih =>
    intro s
    simp only [State.insertDataList]
    obtain ⟨f1, f2⟩ := insertData_frame s d
    cases h1 : s.insertData d with
    | mk o s1 =>
      rw [h1] at f1 f2
      cases o with
      | none => exact ⟨f1, f2⟩
      | some p =>
        obtain ⟨g1, g2⟩ := ih s1
        simp only []
        cases h2 : s1.insertDataList ds with
        | mk o2 s2 =>
          rw [h2] at g1 g2
          cases o2 <;> exact ⟨by rw [← f1]; exact g1, by rw [← f2]; exact g2⟩

theorem addRes_frame (s : State) (id : String) (len : Nat) :
    (s.addRes id len).2.anns = s.anns ∧ (s.addRes id len).2.edges = s.edges := by
  unfold State.addRes
  split
  · split <;> exact ⟨rfl, rfl⟩
  · exact ⟨rfl, rfl⟩

theorem addSet_frame (s : State) (id : String) (ks : List String) :
    (s.addSet id ks).2.anns = s.anns ∧ (s.addSet id ks).2.edges = s.edges := by
  unfold State.addSet
  split
  · split
    · split <;> exact ⟨rfl, rfl⟩
    · exact ⟨rfl, rfl⟩
  · exact ⟨rfl, rfl⟩

theorem addData_frame (s : State) (d : DataReq) :
    (s.addData d).2.anns = s.anns ∧ (s.addData d).2.edges = s.edges := by
  unfold State.addData
  have := insertData_frame s d
  split <;> simp_all

theorem addRes_inv (s : State) (id : String) (len : Nat) (hi : Inv s) : Inv (s.addRes id len).2 :=
  hi.of_frame (addRes_frame s id len).1 (addRes_frame s id len).2

theorem addSet_inv (s : State) (id : String) (hi : Inv s) : Inv (s.addSet id).2 :=
  hi.of_frame (addSet_frame s id []).1 (addSet_frame s id []).2

theorem addData_inv (s : State) (d : DataReq) (hi : Inv s) : Inv (s.addData d).2 :=
  hi.of_frame (addData_frame s d).1 (addData_frame s d).2

/-! ### `annotate`: nothing, or one annotation pushed -/

structure Pushed (s s' : State) (a : AnnM) : Prop where
  anns : s'.anns = s.anns ++ [some a]
  edges : s'.edges = addEdges s.edges a.fwd s.anns.length
  live : ∀ t, Key.ann t ∈ a.fwd → (getLive s.anns t).isSome
  fresh : ∀ i, a.id = some i → ∀ x b, getLive s.anns x = some b → b.id ≠ some i

/-- the first case includes the call that finds the same annotation under its identifier (answered `.ok`) -/
theorem annotate_cases (s : State) (id : Option String) (t : TargetReq) (ds : List DataReq) :
    ((s.annotate id t ds).2.anns = s.anns ∧ (s.annotate id t ds).2.edges = s.edges) ∨
    ∃ tm data, (s.target t).1 = some tm ∧ ((s.target t).2.insertDataList ds).1 = some data ∧
      (s.annotate id t ds).1 = .ok (toString s.anns.length) ∧ Pushed s (s.annotate id t ds).2 ⟨id, tm, data⟩ := by
  unfold State.annotate
  obtain ⟨t1, t2, t3⟩ := target_spec s t
  cases ht : s.target t with
  | mk o s1 =>
    rw [ht] at t1 t2 t3
    obtain ⟨d1, d2⟩ := insertDataList_frame ds s1
    cases hd : s1.insertDataList ds with
    | mk o2 s2 =>
      rw [hd, t1] at d1
      rw [hd, t2] at d2
      cases o with
      | none => exact Or.inl ⟨t1, t2⟩
      | some tm =>
        cases o2 with
        | none => simp only [hd]; exact Or.inl ⟨d1, d2⟩
        | some data =>
          simp only [hd]
          split
          · split <;> exact Or.inl ⟨d1, d2⟩
          · rename_i hex
            refine Or.inr ⟨tm, data, rfl, rfl, by rw [d1], by rw [d1], by rw [d1, d2], ?_, ?_⟩
            · intro x hx
              obtain ⟨m, hm, hk⟩ := (ann_key_mem_fwd _ x).1 hx
              exact t3 tm rfl m hm x hk
            · rintro i rfl x b hx
              exact resolveAnn_id_none hex x b (d1 ▸ hx)

theorem Pushed.inv {s s' : State} {a : AnnM} (hp : Pushed s s' a) (hi : Inv s) : Inv s' := by
  have hle : EdgesLe s.edges s.anns.length := fun e he => Nat.le_of_lt (hi.lt e he)
  obtain ⟨g1, g2, _, g4⟩ := addEdges_props a.fwd s.anns.length s.edges hi.sorted hi.nodup hle
  refine ⟨?_, hp.edges ▸ g2, hp.edges ▸ g1⟩
  intro k h
  rw [hp.edges, hp.anns, g4, hi.mem]
  simp only [getLive_append_some]
  constructor
  · rintro (⟨b, hb, hk⟩ | ⟨rfl, hk⟩)
    · exact ⟨b, Or.inl hb, hk⟩
    · exact ⟨a, Or.inr ⟨rfl, rfl⟩, hk⟩
  · rintro ⟨b, hb | ⟨rfl, rfl⟩, hk⟩
    · exact Or.inl ⟨b, hb, hk⟩
    · exact Or.inr ⟨rfl, hk⟩

theorem annotate_inv (s : State) (id : Option String) (t : TargetReq) (ds : List DataReq) (hi : Inv s) :
    Inv (s.annotate id t ds).2 := by
  rcases annotate_cases s id t ds with ⟨h1, h2⟩ | ⟨_, _, _, _, _, hp⟩
  · exact hi.of_frame h1 h2
  · exact hp.inv hi

/-! ### the predicates of C02 and C03, and what a push keeps of them -/

/-- an annotation only targets annotations with a smaller handle -/
def TargetsLt (s : State) : Prop := ∀ x a, getLive s.anns x = some a → ∀ t, Key.ann t ∈ a.fwd → t < x

theorem TargetsLt.push {s s' : State} {a : AnnM} (ht : TargetsLt s) (hp : Pushed s s' a) : TargetsLt s' := by
  intro x b hx t hk
  rw [hp.anns, getLive_append_some] at hx
  rcases hx with hx | ⟨rfl, rfl⟩
  · exact ht x b hx t hk
  · exact lt_of_getLive_isSome (hp.live t hk)

namespace C02

/-- every annotation an annotation targets is live -/
def AnnTargetsLive (s : State) : Prop :=
  ∀ x a, getLive s.anns x = some a → ∀ t, Key.ann t ∈ a.fwd → (getLive s.anns t).isSome

theorem AnnTargetsLive.push {s s' : State} {a : AnnM} (hl : AnnTargetsLive s) (hp : Pushed s s' a) :
    AnnTargetsLive s' := by
  intro x b hx t hk
  rw [hp.anns] at hx ⊢
  have ht : (getLive s.anns t).isSome := by
    rcases getLive_append_some.1 hx with hx | ⟨rfl, rfl⟩
    · exact hl x b hx t hk
    · exact hp.live t hk
  rwa [getLive_append_of_isSome ht]

end C02

namespace C03

/-- no two live annotations carry the same public identifier -/
def IdsUnique (s : State) : Prop :=
  ∀ h1 h2 a1 a2 i, getLive s.anns h1 = some a1 → getLive s.anns h2 = some a2 →
    a1.id = some i → a2.id = some i → h1 = h2

theorem IdsUnique.push {s s' : State} {a : AnnM} (hu : IdsUnique s) (hp : Pushed s s' a) : IdsUnique s' :=
  unique_write (f := AnnM.id) hu (hp.anns ▸ getLive_append_eq s.anns (some a)) hp.fresh

end C03

/-! ### a batch by its first element -/

theorem annotateAll_cons_err {s : State} {it : Item} (r : List Item)
    (h : (s.annotate it.id it.target it.data).1 = .err) :
    annotateAll s (it :: r) = (none, (s.annotate it.id it.target it.data).2) := by
  rw [annotateAll]
  split
  · rename_i heq
    rw [heq] at h
    cases h
  · rename_i heq
    rw [heq]

theorem annotateAll_cons_ok {s : State} {it : Item} (r : List Item) {hd : String}
    (h : (s.annotate it.id it.target it.data).1 = .ok hd) :
    annotateAll s (it :: r) = ((annotateAll (s.annotate it.id it.target it.data).2 r).1.map (hd :: ·),
      (annotateAll (s.annotate it.id it.target it.data).2 r).2) := by
  rw [annotateAll]
  split
  · rename_i heq
    rw [heq] at h
    cases h
    simp only [heq]
    split
    · rename_i hr
      simp [hr]
    · rename_i hr
      simp [hr]
  · rename_i heq
    rw [heq] at h
    cases h

end Stam
