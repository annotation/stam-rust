import StamModel.Vocab
import StamModel.Lemmas.Slots
import StamModel.Lemmas.Handles
/-
  The vocabulary model (Vocab.lean): index entries by membership, what each operation does, the two invariants of
  Props/C10Vocab.
-/
namespace Stam.Vocab
open Coll

theorem getD_preserves {α} {P : α → Prop} {a : α} {o : Option α} (ha : P a) (h : ∀ a', o = some a' → P a') :
    P (o.getD a) := by
  cases o with
  | none => exact ha
  | some a' => exact h a' rfl

abbrev Sorted (l : List Nat) : Prop := l.Pairwise (· < ·)

theorem sorted_nodup {l : List Nat} (h : Sorted l) : l.Nodup :=
  strictSorted_nodup l h

theorem sorted_lt_of_last_lt {l : List Nat} {last y : Nat} (hs : Sorted l) (hl : l.getLast? = some last) (hy : last < y) :
    ∀ x ∈ l, x < y := by
  obtain ⟨ys, rfl⟩ := List.getLast?_eq_some_iff.mp hl
  intro x hx
  rcases List.mem_append.mp hx with h | h
  · exact Nat.lt_trans ((List.pairwise_append.mp hs).2.2 x h last (List.mem_singleton_self _)) hy
  · rw [List.mem_singleton.mp h]
    exact hy

theorem insertSorted_of_lt (y : Nat) : ∀ l : List Nat, (∀ x ∈ l, x < y) → insertSorted y l = l ++ [y]
  | [], _ => rfl
  | a :: r, h => by
    have : ¬ y ≤ a := Nat.not_le.mpr (h a (List.mem_cons_self ..))
    rw [insertSorted, if_neg this, insertSorted_of_lt y r (fun x hx => h x (List.mem_cons_of_mem _ hx))]
    rfl

theorem insertSorted_eq_split (y : Nat) : ∀ l : List Nat,
    insertSorted y l = l.takeWhile (· < y) ++ y :: l.dropWhile (· < y)
  | [] => rfl
  | a :: r => by
    by_cases h : a < y
    · simp [insertSorted, h, Nat.not_le.mpr h, insertSorted_eq_split y r]
    · simp [insertSorted, h, Nat.not_lt.mp h]

theorem relInsert_eq {l : List Nat} (y : Nat) (hs : Sorted l) : relInsert l y = if y ∈ l then l else insertSorted y l := by
  unfold relInsert
  cases hl : l.getLast? with
  | none =>
    rw [List.getLast?_eq_none_iff.mp hl]
    rfl
  | some last =>
    have hlast : last ∈ l := List.mem_of_getLast? hl
    simp only
    split
    · rw [if_pos (‹last = y› ▸ hlast)]
    · split
      · split
        · rfl
        · exact (insertSorted_eq_split y l).symm
      · have hlt : ∀ x ∈ l, x < y := sorted_lt_of_last_lt hs hl (by omega)
        rw [if_neg (fun h => Nat.lt_irrefl y (hlt y h)), insertSorted_of_lt y l hlt]

theorem mem_relInsert (l : List Nat) (y x : Nat) (hs : Sorted l) : x ∈ relInsert l y ↔ x = y ∨ x ∈ l := by
  rw [relInsert_eq y hs]
  split
  · exact ⟨Or.inr, fun h => h.elim (fun e => e ▸ ‹y ∈ l›) id⟩
  · exact mem_insertSorted y x l

theorem sorted_relInsert (l : List Nat) (y : Nat) (hs : Sorted l) : Sorted (relInsert l y) := by
  rw [relInsert_eq y hs]
  split
  · exact hs
  · exact strictSorted_insertSorted y l hs ‹_›

theorem mem_erase_sorted (l : List Nat) (y x : Nat) (hs : Sorted l) : x ∈ l.erase y ↔ x ∈ l ∧ x ≠ y := by
  rw [List.Nodup.mem_erase_iff (sorted_nodup hs), and_comm]

theorem sorted_erase (l : List Nat) (y : Nat) (hs : Sorted l) : Sorted (l.erase y) :=
  List.Pairwise.sublist (List.erase_sublist) hs

theorem idxGet_of_le {ix : List (List Nat)} {k : Nat} (h : ix.length ≤ k) : idxGet ix k = [] := by
  simp [idxGet, List.getElem?_eq_none h]

/-- beyond the end `set` writes nothing: the same, if what was to be written is empty -/
theorem idxGet_set {ix : List (List Nat)} {k k' : Nat} {l : List Nat} (h : ix.length ≤ k → l = []) :
    idxGet (ix.set k l) k' = if k' = k then l else idxGet ix k' := by
  by_cases e : k' = k
  · subst e
    by_cases c : k' < ix.length
    · simp [idxGet, c]
    · rw [if_pos rfl, h (Nat.le_of_not_lt c), idxGet_of_le (by simpa using c)]
  · simp [idxGet, e, Ne.symm e]

theorem idxGet_pad (ix : List (List Nat)) (n k : Nat) : idxGet (ix ++ List.replicate n []) k = idxGet ix k := by
  unfold idxGet
  by_cases h : k < ix.length
  · rw [List.getElem?_append_left h]
  · have h' : ix.length ≤ k := Nat.le_of_not_lt h
    rw [List.getElem?_append_right h', List.getElem?_eq_none h', List.getElem?_replicate]
    split <;> rfl

theorem idxGet_idxInsert (ix : List (List Nat)) (k y k' : Nat) :
    idxGet (idxInsert ix k y) k' = if k' = k then relInsert (idxGet ix k) y else idxGet ix k' := by
  have hlen : ¬ (ix ++ List.replicate (k + 1 - ix.length) []).length ≤ k := by
    simp only [List.length_append, List.length_replicate]
    omega
  unfold idxInsert
  rw [idxGet_set (fun h => absurd h hlen), idxGet_pad]

theorem idxGet_idxRemove (ix : List (List Nat)) (k y k' : Nat) :
    idxGet (idxRemove ix k y) k' = if k' = k then (idxGet ix k).erase y else idxGet ix k' :=
  idxGet_set (fun h => congrArg (List.erase · y) (idxGet_of_le h))

theorem idxGet_idxClear (ix : List (List Nat)) (k k' : Nat) :
    idxGet (idxClear ix k) k' = if k' = k then [] else idxGet ix k' :=
  idxGet_set (fun _ => rfl)

theorem mem_idxGet_idxInsert {ix : List (List Nat)} {k : Nat} (hs : Sorted (idxGet ix k)) (y k' d : Nat) :
    d ∈ idxGet (idxInsert ix k y) k' ↔ d ∈ idxGet ix k' ∨ (k' = k ∧ d = y) := by
  rw [idxGet_idxInsert]
  by_cases e : k' = k
  · subst e
    simp [mem_relInsert _ _ _ hs, or_comm]
  · simp [e]

theorem mem_idxGet_idxRemove {ix : List (List Nat)} {k : Nat} (hs : Sorted (idxGet ix k)) (y k' d : Nat) :
    d ∈ idxGet (idxRemove ix k y) k' ↔ d ∈ idxGet ix k' ∧ ¬ (k' = k ∧ d = y) := by
  rw [idxGet_idxRemove]
  by_cases e : k' = k
  · subst e
    simp [mem_erase_sorted _ _ _ hs]
  · simp [e]

theorem mem_idxGet_idxClear (ix : List (List Nat)) (k k' d : Nat) :
    d ∈ idxGet (idxClear ix k) k' ↔ d ∈ idxGet ix k' ∧ k' ≠ k := by
  rw [idxGet_idxClear]
  by_cases e : k' = k <;> simp [e]

theorem sorted_idxGet_idxInsert {ix : List (List Nat)} (hs : ∀ k, Sorted (idxGet ix k)) (k y k' : Nat) :
    Sorted (idxGet (idxInsert ix k y) k') := by
  rw [idxGet_idxInsert]
  split
  · exact sorted_relInsert _ _ (hs k)
  · exact hs k'

theorem sorted_idxGet_idxRemove {ix : List (List Nat)} (hs : ∀ k, Sorted (idxGet ix k)) (k y k' : Nat) :
    Sorted (idxGet (idxRemove ix k y) k') := by
  rw [idxGet_idxRemove]
  split
  · exact sorted_erase _ _ (hs k)
  · exact hs k'

theorem sorted_idxGet_idxClear {ix : List (List Nat)} (hs : ∀ k, Sorted (idxGet ix k)) (k k' : Nat) :
    Sorted (idxGet (idxClear ix k) k') := by
  rw [idxGet_idxClear]
  split
  · exact List.Pairwise.nil
  · exact hs k'

theorem removeData_eq_some {s s' : DSet} {d : Nat} (h : s.removeData d = some s') :
    ∃ x, getLive s.data d = some x ∧ s' = { s with data := setAt s.data d none, idx := idxRemove s.idx x.key d } := by
  unfold DSet.removeData at h
  split at h
  · cases h
  · rename_i x hx
    exact ⟨x, hx, (Option.some.inj h).symm⟩

theorem removeData_eq_none {s : DSet} {d : Nat} (h : s.removeData d = none) : getLive s.data d = none := by
  unfold DSet.removeData at h
  split at h
  · assumption
  · cases h

theorem removeKey_eq_some {s s' : DSet} {k : Nat} (h : s.removeKey k = some s') :
    (getLive s.keys k).isSome ∧ s' = { s.removeAll (s.dataByKey k) with
      keys := setAt (s.removeAll (s.dataByKey k)).keys k none, idx := idxClear (s.removeAll (s.dataByKey k)).idx k } := by
  unfold DSet.removeKey at h
  split at h
  · cases h
  · rename_i hk
    exact ⟨Option.isSome_iff_exists.mpr ⟨_, hk⟩, (Option.some.inj h).symm⟩

theorem insertData_cases (s : DSet) (id : Option String) (key v : String) (sf : Bool) :
    (s.insertData id key v sf).2 = s ∨
    ((∀ i, id = some i → s.dataById i = none) ∧
      ((∃ k, s.keyByName key = some k ∧ s.insertData id key v sf = s.push ⟨id, k, v⟩ ∧
          (id = none → sf = true → s.dataByValue k v = none)) ∨
        (s.keyByName key = none ∧
          s.insertData id key v sf = ({ s with keys := s.keys ++ [some key] } : DSet).push ⟨id, s.keys.length, v⟩))) := by
  unfold DSet.insertData
  cases hd : id.bind s.dataById with
  | some d => exact .inl rfl
  | none =>
    have hid : ∀ i, id = some i → s.dataById i = none := fun i h => by simpa [h] using hd
    cases hk : s.keyByName key with
    | none => exact .inr ⟨hid, .inr ⟨rfl, rfl⟩⟩
    | some k =>
      simp only
      cases hv : (if id.isNone && sf then s.dataByValue k v else none) with
      | some d => exact .inl rfl
      | none =>
        refine .inr ⟨hid, .inl ⟨k, rfl, rfl, fun e1 e2 => ?_⟩⟩
        simpa [e1, e2] using hv

theorem mergeDatum_cases (s : DSet) (x : Datum) :
    s.mergeDatum x = s ∨
    (s.mergeDatum x = (s.push x).2 ∧ (∀ i, x.id = some i → s.dataById i = none) ∧
      (x.id = none → s.dataByValue x.key x.val = none)) ∨
    ∃ i d old, x.id = some i ∧ s.dataById i = some d ∧ getLive s.data d = some old ∧
      s.mergeDatum x = { s with data := setAt s.data d (some x),
                                idx := if old.key = x.key then s.idx else idxInsert (idxRemove s.idx old.key d) x.key d } := by
  unfold DSet.mergeDatum
  cases hid : x.id with
  | none =>
    cases hv : s.dataByValue x.key x.val with
    | some d => exact .inl (if_pos rfl)
    | none => exact .inr (.inl ⟨if_neg Bool.false_ne_true, nofun, fun _ => rfl⟩)
  | some i =>
    simp only
    cases hd : s.dataById i with
    | none => exact .inr (.inl ⟨rfl, fun j e => (Option.some.inj e) ▸ hd, nofun⟩)
    | some d =>
      simp only
      cases hold : getLive s.data d with
      | none => exact .inl rfl
      | some old =>
        simp only
        split
        · exact .inl rfl
        · exact .inr (.inr ⟨i, d, old, rfl, hd, hold, rfl⟩)

/-- what holds of a dataset at all times -/
structure Inv (s : DSet) : Prop where
  /-- a key name exists once -/
  keysUnique : ∀ k1 k2 n, getLive s.keys k1 = some n → getLive s.keys k2 = some n → k1 = k2
  /-- a data identifier exists once -/
  idsUnique : ∀ d1 d2 x1 x2 i, getLive s.data d1 = some x1 → getLive s.data d2 = some x2 →
    x1.id = some i → x2.id = some i → d1 = d2
  /-- the index lists under a key exactly the live items that carry it -/
  idxExact : ∀ k d, d ∈ idxGet s.idx k ↔ ∃ x, getLive s.data d = some x ∧ x.key = k
  /-- an entry is in the order of the handles, so it lists an item once -/
  idxSorted : ∀ k, Sorted (idxGet s.idx k)
  /-- the key of a live item is a live key -/
  keysLive : ∀ d x, getLive s.data d = some x → (getLive s.keys x.key).isSome

/-- the index by membership: an overwrite in place that keeps the key leaves the entry as it is -/
theorem Inv.insertDatum {s s' : DSet} {d : Nat} {x : Datum} (hi : Inv s) (hkeys : s'.keys = s.keys)
    (hdata : ∀ d', getLive s'.data d' = if d' = d then some x else getLive s.data d')
    (hidx : ∀ k d', d' ∈ idxGet s'.idx k ↔ d' ∈ idxGet s.idx k ∨ (k = x.key ∧ d' = d))
    (hsorted : ∀ k, Sorted (idxGet s'.idx k))
    (hdead : getLive s.data d = none) (hk : (getLive s.keys x.key).isSome)
    (hid : ∀ i, x.id = some i → ∀ d' y, getLive s.data d' = some y → y.id ≠ some i) : Inv s' := by
  refine ⟨hkeys ▸ hi.keysUnique, unique_write (f := Datum.id) hi.idsUnique hdata hid, ?_, hsorted, ?_⟩
  · intro k d'
    rw [hidx, hi.idxExact, hdata]
    by_cases e : d' = d
    · subst e
      simp [hdead, eq_comm]
    · simp [e]
  · intro d' y hy
    rw [hdata] at hy
    rw [hkeys]
    split at hy
    · cases hy
      exact hk
    · exact hi.keysLive d' y hy

/-- data without identifier exists once per (key, value) -/
def Shared (s : DSet) : Prop :=
  ∀ d1 d2 x1 x2, getLive s.data d1 = some x1 → getLive s.data d2 = some x2 → x1.id = none → x2.id = none →
    x1.key = x2.key → x1.val = x2.val → d1 = d2

theorem Shared.insertDatum {s s' : DSet} {d : Nat} {x : Datum} (hs : Shared s)
    (hdata : ∀ d', getLive s'.data d' = if d' = d then some x else getLive s.data d')
    (hnew : x.id = none → ∀ d' y, getLive s.data d' = some y → y.key = x.key → y.val ≠ x.val) : Shared s' := by
  intro d1 d2 x1 x2 h1 h2 e1 e2 ek ev
  rw [hdata] at h1 h2
  split at h1 <;> split at h2
  · omega
  · cases h1
    exact absurd ev.symm (hnew e1 d2 x2 h2 ek.symm)
  · cases h2
    exact absurd ev (hnew e2 d1 x1 h1 ek)
  · exact hs d1 d2 x1 x2 h1 h2 e1 e2 ek ev

theorem removeAll_preserves {P : DSet → Prop} (hP : ∀ s s' d, P s → s.removeData d = some s' → P s') :
    ∀ (l : List Nat) (s : DSet), P s → P (s.removeAll l)
  | [], _, h => h
  | d :: r, s, h => removeAll_preserves hP r _ (getD_preserves h fun s' e => hP s s' d h e)

end Stam.Vocab
