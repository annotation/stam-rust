import StamModel.Gen.DvTest
/-
  C10 — the tie between the hand-written comparison model (`Stam.dvTest` in DataValue.lean, which the C10 theorems are
  about) and the definition the translator regenerates from `DataValue::test` in `src/datavalue.rs` on every run
  (`Stam.Gen.dvTest`). A change of an arm changes the generated definition, and this theorem no longer checks.

  `pd` (RFC 3339 parsing, for `Equals(string)` against a datetime) is instantiated with "no string is a datetime":
  the model does not cover comparing datetimes with strings (the `data` family checks it against its own oracle).

  (Not `simp [Gen.dvTest, dvTest]`: on most pairs it has to discharge the forty premises of the catch-all equation.)
-/
namespace Stam

def noDt : String → Option Int := fun _ => none

theorem dvAll_eq_all (v : DV) : ∀ os : List DOp, dvAll v os = os.all (dvTest v)
  | [] => rfl
  | o :: os => by rw [dvAll, dvAll_eq_all v os, List.all_cons]

theorem dvAny_eq_any (v : DV) : ∀ os : List DOp, dvAny v os = os.any (dvTest v)
  | [] => rfl
  | o :: os => by rw [dvAny, dvAny_eq_any v os, List.any_cons]

theorem elemEq_eq_dvTest (s : String) (e : DV) : elemEq s e = dvTest e (.eq s) := by
  cases e <;> rfl

theorem elemEqi_eq_dvTest (n : Int) (e : DV) : elemEqi n e = dvTest e (.eqi n) := by
  cases e <;> rfl

theorem elemEqf_eq_dvTest (q : Int) (e : DV) : elemEqf q e = dvTest e (.eqf q) := by
  cases e <;> rfl

theorem Gen.dvAnyElem_eq_any (pd : String → Option Int) (o : DOp) :
    ∀ l : List DV, Gen.dvAnyElem pd l o = l.any (Gen.dvTest pd · o)
  | [] => by
    rw [Gen.dvAnyElem]
    rfl
  | e :: es => by
    rw [Gen.dvAnyElem, Gen.dvAnyElem_eq_any pd o es]
    rfl

theorem gen_list_arm {o : DOp} {p : DV → Bool} (l : List DV) (ho : ∀ e, Gen.dvTest noDt e o = dvTest e o)
    (hp : ∀ e, p e = dvTest e o) : Gen.dvAnyElem noDt l o = l.any p := by
  rw [Gen.dvAnyElem_eq_any, funext hp, funext ho]

theorem match_some_beq (o : Option Int) (a : Int) :
    (match o with | some b => a == b | none => false) = (o == some a) := by
  cases o <;> simp [BEq.comm (a := a)]

theorem gen_dvTest_eq (s : String) (v : DV) : Gen.dvTest noDt v (.eq s) = dvTest v (.eq s) := by
  rw [Gen.dvTest.eq_def]
  cases v with
  | bool b =>
    cases b
    all_goals
      show (if truthy s then _ else _) = (_ == truthy s)
      cases truthy s <;> rfl
  | int n => exact match_some_beq (parseIsize s) n
  | flt q => exact match_some_beq (parseQuarter s) q
  | _ => rfl

theorem gen_dvTest_eqi (n : Int) (v : DV) : Gen.dvTest noDt v (.eqi n) = dvTest v (.eqi n) := by
  cases v <;> exact Gen.dvTest.eq_def ..

theorem gen_dvTest_eqf (q : Int) (v : DV) : Gen.dvTest noDt v (.eqf q) = dvTest v (.eqf q) := by
  cases v <;> exact Gen.dvTest.eq_def ..

mutual
/-- the source's `DataValue::test`, arm by arm, computes what the model computes -/
theorem gen_dvTest_agrees : ∀ (o : DOp) (v : DV), Gen.dvTest noDt v o = dvTest v o
  | .not o, v => by
    rw [Gen.dvTest.eq_def]
    cases v <;> exact congrArg not (gen_dvTest_agrees o _)
  | .and os, v => by
    rw [Gen.dvTest.eq_def]
    cases v <;> exact gen_dvAll_agrees os _
  | .or os, v => by
    rw [Gen.dvTest.eq_def]
    cases v <;> exact gen_dvAny_agrees os _
  | .has s, v => by
    rw [Gen.dvTest.eq_def]
    cases v with
    | list l => exact gen_list_arm l (gen_dvTest_eq s) (elemEq_eq_dvTest s)
    | _ => rfl
  | .hasi n, v => by
    rw [Gen.dvTest.eq_def]
    cases v with
    | list l => exact gen_list_arm l (gen_dvTest_eqi n) (elemEqi_eq_dvTest n)
    | _ => rfl
  | .hasf q, v => by
    rw [Gen.dvTest.eq_def]
    cases v with
    | list l => exact gen_list_arm l (gen_dvTest_eqf q) (elemEqf_eq_dvTest q)
    | _ => rfl
  -- `.eq s` is no part of `.has s`: the list arms cannot recurse into these
  | .eq s, v => gen_dvTest_eq s v
  | .eqi n, v => gen_dvTest_eqi n v
  | .eqf q, v => gen_dvTest_eqf q v
  | .tru, v | .fls, v => by
    rw [Gen.dvTest.eq_def]
    cases v with
    | bool b => cases b <;> rfl
    | _ => rfl
  | .any, v | .null, v | .dte _, v => by
    cases v <;> exact Gen.dvTest.eq_def ..
  | .gt _, v | .ge _, v | .lt _, v | .le _, v
  | .gtf _, v | .gef _, v | .ltf _, v | .lef _, v
  | .dta _, v | .dtb _, v | .dtae _, v | .dtbe _, v => by
    -- else: an equivalent comparison, written another way in the source
    cases v <;> first
      | exact Gen.dvTest.eq_def ..
      | exact (Gen.dvTest.eq_def ..).trans (decide_eq_decide.mpr (by omega))
theorem gen_dvAll_agrees : ∀ (os : List DOp) (v : DV), Gen.dvAll noDt v os = dvAll v os
  | [], v => by rw [Gen.dvAll, dvAll]
  | o :: os, v => by rw [Gen.dvAll, dvAll, gen_dvTest_agrees o v, gen_dvAll_agrees os v]
theorem gen_dvAny_agrees : ∀ (os : List DOp) (v : DV), Gen.dvAny noDt v os = dvAny v os
  | [], v => by rw [Gen.dvAny, dvAny]
  | o :: os, v => by rw [Gen.dvAny, dvAny, gen_dvTest_agrees o v, gen_dvAny_agrees os v]
end

end Stam
