import StamModel.TextOps
import StamModel.Lemmas.List
/-
  What the naive search `findFrom` finds, in a text and in a window of it, said in the positions of the text.
-/
namespace Stam

/-- `n` occurs in `h` at position `k` -/
def OccursAt (n h : List Char) (k : Nat) : Prop := n.isPrefixOf (h.drop k) = true

theorem findFrom_some (n : List Char) : ∀ (h : List Char) (i j : Nat), findFrom n h i = some j →
    ∃ k, j = i + k ∧ k ≤ h.length ∧ OccursAt n h k ∧ ∀ k', k' < k → ¬ OccursAt n h k' := by
  intro h i j hf
  fun_induction findFrom n h i with
  | case1 i hn =>
    cases hf
    exact ⟨0, rfl, Nat.le_refl _, by simp [OccursAt, List.isEmpty_iff.mp hn], fun _ hk => absurd hk (Nat.not_lt_zero _)⟩
  | case2 i hn => cases hf
  | case3 c cs i hp =>
    cases hf
    exact ⟨0, rfl, Nat.zero_le _, hp, fun _ hk => absurd hk (Nat.not_lt_zero _)⟩
  | case4 c cs i hp ih =>
    obtain ⟨k, hj, hk, ho, hmin⟩ := ih hf
    refine ⟨k + 1, by rw [hj, Nat.add_assoc, Nat.add_comm 1 k], Nat.succ_le_succ hk, ho, fun k' hk' => ?_⟩
    cases k' with
    | zero => exact hp
    | succ k' => exact hmin k' (Nat.lt_of_succ_lt_succ hk')

theorem findFrom_none (n : List Char) : ∀ (h : List Char) (i : Nat), findFrom n h i = none →
    ∀ k, k ≤ h.length → ¬ OccursAt n h k := by
  intro h i hf
  fun_induction findFrom n h i with
  | case1 i hn => cases hf
  | case2 i hn =>
    intro k hk
    cases Nat.le_zero.mp hk
    cases n with
    | nil => exact absurd rfl hn
    | cons a as => exact Bool.false_ne_true
  | case3 c cs i hp => cases hf
  | case4 c cs i hp ih =>
    intro k hk
    cases k with
    | zero => exact hp
    | succ k => exact ih hf k (Nat.le_of_succ_le_succ hk)

theorem occursAt_iff (n h : List Char) (k : Nat) :
    OccursAt n h k ↔ (h.drop k).take n.length = n := by
  unfold OccursAt
  rw [List.isPrefixOf_iff_prefix, List.prefix_iff_eq_take]
  exact eq_comm

theorem occursAt_len (n h : List Char) (k : Nat) (hk : k ≤ h.length) (ho : OccursAt n h k) : k + n.length ≤ h.length := by
  have := (List.isPrefixOf_iff_prefix.mp ho).length_le
  rw [List.length_drop] at this
  exact Nat.add_le_of_le_sub' hk this

theorem findFrom_zero {n h : List Char} {k : Nat} (hf : findFrom n h 0 = some k) :
    k + n.length ≤ h.length ∧ OccursAt n h k ∧ ∀ k', k' < k → ¬ OccursAt n h k' := by
  obtain ⟨k', hk', hkl, hocc, hmin⟩ := findFrom_some n h 0 k hf
  obtain rfl : k' = k := (hk'.trans (Nat.zero_add k')).symm
  exact ⟨occursAt_len n h k' hkl hocc, hocc, hmin⟩

theorem occursAt_window {n text : List Char} {b e k : Nat} (h : k + n.length ≤ e - b) :
    OccursAt n ((text.drop b).take (e - b)) k ↔ (text.drop (b + k)).take n.length = n := by
  rw [occursAt_iff, slice_slice text b (e - b) k n.length h]

theorem occursAt_window_of {n text : List Char} {b e q : Nat} (hbq : b ≤ q) (hqe : q + n.length ≤ e)
    (hq : (text.drop q).take n.length = n) : OccursAt n ((text.drop b).take (e - b)) (q - b) := by
  have hfit : q - b + n.length ≤ e - b := Nat.sub_add_comm hbq ▸ Nat.sub_le_sub_right hqe b
  rw [occursAt_window hfit, Nat.add_sub_cancel' hbq]
  exact hq

theorem findFrom_window_some {n text : List Char} {b e k : Nat} (hbe : b ≤ e) (he : e ≤ text.length)
    (hk : findFrom n ((text.drop b).take (e - b)) 0 = some k) :
    b + k + n.length ≤ e ∧ (text.drop (b + k)).take n.length = n ∧
    ∀ q, b ≤ q → q + n.length ≤ e → (text.drop q).take n.length = n → b + k ≤ q := by
  obtain ⟨hfit, hocc, hmin⟩ := findFrom_zero hk
  rw [slice_length he] at hfit
  refine ⟨Nat.add_assoc .. ▸ Nat.add_le_of_le_sub' hbe hfit, (occursAt_window hfit).mp hocc, ?_⟩
  intro q hbq hqe hq
  exact Nat.le_of_not_lt fun hlt => hmin (q - b) (Nat.sub_lt_left_of_lt_add hbq hlt) (occursAt_window_of hbq hqe hq)

theorem findFrom_window_none {n text : List Char} {b e : Nat} (he : e ≤ text.length)
    (hk : findFrom n ((text.drop b).take (e - b)) 0 = none) :
    ∀ q, b ≤ q → q + n.length ≤ e → (text.drop q).take n.length ≠ n := by
  intro q hbq hqe hq
  refine findFrom_none n _ 0 hk (q - b) ?_ (occursAt_window_of hbq hqe hq)
  rw [slice_length he]
  exact Nat.sub_le_sub_right (Nat.le_trans (Nat.le_add_right ..) hqe) b

end Stam
