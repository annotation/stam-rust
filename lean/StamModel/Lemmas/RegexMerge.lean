import StamModel.RegexMerge
/-
  `advance` treats every buffer by itself: what it does is said once per buffer (`keep`, `dropped`) and carried to the
  state by `map` / `flatMap`.
-/
namespace Stam.RX.C07R

/-- what a report of match `m` of expression `i` leaves of buffer `k` -/
def keep (ov : Bool) (i : Nat) (m : M) (k : Nat) (l : List M) : List M :=
  if k = i then l.tail else if ov then l else l.dropWhile (inside m)

/-- what it discards from buffer `k` -/
def dropped (ov : Bool) (i : Nat) (m : M) (k : Nat) (l : List M) : List M :=
  if k = i ∨ ov then [] else l.takeWhile (inside m)

theorem advance_cons (ov : Bool) (i : Nat) (m : M) (k : Nat) (l : List M) (r : St) :
    advance ov i m ((k, l) :: r) = ((k, keep ov i m k l) :: (advance ov i m r).1,
      (dropped ov i m k l).map (fun m2 => Ev.drop k m2 i m) ++ (advance ov i m r).2) := by
  simp only [advance, keep, dropped]
  by_cases h : k = i
  · simp [h]
  · cases ov <;> simp [h]

theorem advance_fst (ov : Bool) (i : Nat) (m : M) (st : St) :
    (advance ov i m st).1 = st.map (fun p => (p.1, keep ov i m p.1 p.2)) := by
  induction st with
  | nil => rfl
  | cons p r ih => rw [advance_cons, List.map_cons, ih]

theorem advance_snd (ov : Bool) (i : Nat) (m : M) (st : St) :
    (advance ov i m st).2 = st.flatMap (fun p => (dropped ov i m p.1 p.2).map (fun m2 => Ev.drop p.1 m2 i m)) := by
  induction st with
  | nil => rfl
  | cons p r ih => rw [advance_cons, List.flatMap_cons, ih]

theorem mem_advance_fst {ov : Bool} {i : Nat} {m : M} {st : St} {k : Nat} {l' : List M} :
    (k, l') ∈ (advance ov i m st).1 ↔ ∃ l, (k, l) ∈ st ∧ l' = keep ov i m k l := by
  rw [advance_fst, List.mem_map]
  constructor
  · rintro ⟨p, hp, he⟩
    cases he
    exact ⟨p.2, hp, rfl⟩
  · rintro ⟨l, hl, rfl⟩
    exact ⟨(k, l), hl, rfl⟩

theorem mem_advance_snd {ov : Bool} {i : Nat} {m : M} {st : St} {ev : Ev} :
    ev ∈ (advance ov i m st).2 ↔ ∃ k l, (k, l) ∈ st ∧ ∃ m2, m2 ∈ dropped ov i m k l ∧ ev = .drop k m2 i m := by
  rw [advance_snd, List.mem_flatMap]
  constructor
  · rintro ⟨p, hp, hev⟩
    obtain ⟨m2, hm2, rfl⟩ := List.mem_map.mp hev
    exact ⟨p.1, p.2, hp, m2, hm2, rfl⟩
  · rintro ⟨k, l, hl, m2, hm2, rfl⟩
    exact ⟨(k, l), hl, List.mem_map.mpr ⟨m2, hm2, rfl⟩⟩

theorem keep_sublist (ov : Bool) (i : Nat) (m : M) (k : Nat) (l : List M) : (keep ov i m k l).Sublist l := by
  unfold keep
  split
  · exact List.tail_sublist l
  · split
    · exact List.Sublist.refl l
    · exact List.dropWhile_sublist _

theorem dropped_append_keep (ov : Bool) (i : Nat) (m : M) (k : Nat) (l : List M) :
    dropped ov i m k l ++ keep ov i m k l = if k = i then l.tail else l := by
  unfold dropped keep
  by_cases h : k = i
  · simp [h]
  · cases ov <;> simp [h, List.takeWhile_append_dropWhile]

theorem of_mem_dropped {ov : Bool} {i : Nat} {m : M} {k : Nat} {l : List M} {m2 : M} (h : m2 ∈ dropped ov i m k l) :
    ov = false ∧ k ≠ i ∧ inside m m2 = true := by
  unfold dropped at h
  split at h
  · cases h
  · next c =>
    exact ⟨Bool.eq_false_iff.mpr fun ho => c (Or.inr ho), fun hk => c (Or.inl hk), List.all_eq_true.mp List.all_takeWhile m2 h⟩

theorem length_le_total {st : St} {k : Nat} {l : List M} (h : (k, l) ∈ st) : l.length ≤ total st := by
  induction st with
  | nil => cases h
  | cons p r ih =>
    rw [show total (p :: r) = p.2.length + total r from List.sum_cons]
    rcases List.mem_cons.mp h with rfl | hr
    · exact Nat.le_add_right ..
    · exact Nat.le_trans (ih hr) (Nat.le_add_left ..)

theorem emits_cons_advance (ov : Bool) (i : Nat) (m : M) (st : St) (evs : List Ev) :
    emits (Ev.emit i m :: ((advance ov i m st).2 ++ evs)) = (i, m) :: emits evs := by
  have : emits (advance ov i m st).2 = [] := by
    apply List.filterMap_eq_nil_iff.mpr
    intro ev hev
    obtain ⟨k, l, _, m2, _, rfl⟩ := mem_advance_snd.mp hev
    rfl
  show (i, m) :: emits ((advance ov i m st).2 ++ evs) = _
  rw [emits, List.filterMap_append, ← emits, ← emits, this, List.nil_append]

def SortedB (l : List M) : Prop := l.Pairwise (fun a c => a.b ≤ c.b)

/-- every buffer in the order of begin positions -/
def AllSorted (st : St) : Prop := ∀ k l, (k, l) ∈ st → SortedB l

theorem AllSorted.advance {st : St} (hs : AllSorted st) (ov : Bool) (i : Nat) (m : M) :
    AllSorted (advance ov i m st).1 := by
  intro k l' h
  obtain ⟨l, hl, rfl⟩ := mem_advance_fst.mp h
  exact List.Pairwise.sublist (keep_sublist ..) (hs k l hl)

theorem allSorted_start {lists : List (List M)} (hs : ∀ l ∈ lists, SortedB l) : AllSorted (start lists) := by
  intro k l h
  obtain ⟨p, hp, he⟩ := List.mem_map.mp h
  cases he
  exact hs _ (List.fst_mem_of_mem_zipIdx hp)

end Stam.RX.C07R
