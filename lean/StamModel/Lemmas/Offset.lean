import StamModel.Offset
import StamModel.Lemmas.Out
/-
  A parent selection is a text of its own: resolving and reporting relative to `[pb, pe)` are resolving and reporting
  against a text of length `pe - pb`, shifted by `pb`.
-/
namespace Stam
open Out

theorem beginAligned_le {len : Nat} {c : Cursor} {n : Nat} (h : beginAligned len c = .ok n) : n ≤ len := by
  cases c <;> simp only [beginAligned] at h <;> split at h <;> cases h <;> omega

/-- the bound checks after the cursors are dead: a resolved cursor lies in the text -/
theorem resolveRes_eq (len : Nat) (o : Offset) :
    resolveRes len o = (beginAligned len o.c1).bind fun b => (beginAligned len o.c2).bind fun e =>
      if e < b then .err "InvalidOffset" else .ok (b, e) := by
  unfold resolveRes
  cases h1 : beginAligned len o.c1 with
  | ok b =>
    cases h2 : beginAligned len o.c2 with
    | ok e =>
      simp only [bind_ok, gt_iff_lt, Nat.not_lt.2 (beginAligned_le h1), Nat.not_lt.2 (beginAligned_le h2),
        ↓reduceIte]
    | err c => rfl
    | panic m => rfl
  | err c => rfl
  | panic m => rfl

theorem resolveSub_eq (pb pe : Nat) (o : Offset) :
    resolveSub pb pe o = (beginAligned (pe - pb) o.c1).bind fun b => (beginAligned (pe - pb) o.c2).bind fun e =>
      if e < b then .err "InvalidOffset" else .ok (pb + b, pb + e) := by
  unfold resolveSub
  cases beginAligned (pe - pb) o.c1 with
  | ok b =>
    cases beginAligned (pe - pb) o.c2 with
    | ok e => simp only [bind_ok, Nat.add_lt_add_iff_left]
    | err c => rfl
    | panic m => rfl
  | err c => rfl
  | panic m => rfl

theorem resolveRes_eq_ok (len : Nat) (o : Offset) (b e : Nat) :
    resolveRes len o = .ok (b, e) ↔ beginAligned len o.c1 = .ok b ∧ beginAligned len o.c2 = .ok e ∧ b ≤ e := by
  simp only [resolveRes_eq, bind_eq_ok]
  constructor
  · rintro ⟨x, h1, y, h2, h⟩
    split at h
    · cases h
    · cases h
      exact ⟨h1, h2, by omega⟩
  · rintro ⟨h1, h2, h⟩
    exact ⟨b, h1, e, h2, if_neg (by omega)⟩

theorem resolveSub_eq_map (pb pe : Nat) (o : Offset) :
    resolveSub pb pe o = (resolveRes (pe - pb) o).map fun p => (pb + p.1, pb + p.2) := by
  simp only [resolveSub_eq, resolveRes_eq, map_bind, apply_ite (Out.map _)]
  rfl

theorem reportRel_eq (m : OffsetMode) (pb pe b e : Nat) (h1 : pb ≤ b) (h2 : b ≤ e) (h3 : e ≤ pe) :
    reportRel m pb pe b e = .ok (some (reportRes m (pe - pb) (b - pb) (e - pb))) := by
  have hc : ((pe - pb : Nat) : Int) = (pe : Int) - pb := Int.ofNat_sub (Nat.le_trans h1 (Nat.le_trans h2 h3))
  have hb : ¬ e < pb := Nat.not_lt.2 (Nat.le_trans h1 h2)
  cases m <;>
    simp only [reportRel, reportRes, relBegin, relEnd, relBeginEnd, relEndEnd, ge_iff_le, h1, h3, hb, hc, ↓reduceIte]

end Stam
