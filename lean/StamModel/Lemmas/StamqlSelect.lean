import StamModel.Lemmas.StamqlQ
import StamModel.StamqlA
/-
  The printed core of a SELECT query (`coreQ`: what `Query::to_string` writes, without the white space at its end):
  `parse_select` reads it back, `to_string` writes it and then that white space. The sub-queries of ADD and DELETE queries
  are SELECT queries, hence `withSubs_clause` here.
-/
namespace Stam.QL

/-- the white space `to_string` leaves at the end -/
def tailOf : Q → Str
  | .mk _ _ _ cs subs => if !cs.isEmpty && subs.isEmpty then ['\n'] else []

mutual
/-- the text `to_string` writes, without the white space at its end -/
def coreQ (showI : Int → Str) : Q → Option Str
  | .mk optional ty name cs subs =>
    match optAll (cs.map (printCn showI)), coreSubs showI subs with
    | some ts, some st => some (headText optional ty name ++ (whereCore ts ++ subsCore ts subs.isEmpty st))
    | _, _ => none
/-- the sub-queries between the braces, from the first `SELECT` to the end of the last sub-query -/
def coreSubs (showI : Int → Str) : List Q → Option Str
  | [] => some []
  | q :: r =>
    match coreQ showI q, coreSubs showI r with
    | some c, some s => some (if r.isEmpty then c else c ++ (tailOf q ++ '\n' :: '|' :: ' ' :: s))
    | _, _ => none
end

mutual
/-- names and constraints that are read back as printed, at every level -/
def OKQ (E : Ext) (showI : Int → Str) : Q → Prop
  | .mk _ _ name cs subs => (∀ n, name = some n → NameOk n) ∧ (∀ c ∈ cs, ∃ t, CnGood E showI c t) ∧ OKQs E showI subs
def OKQs (E : Ext) (showI : Int → Str) : List Q → Prop
  | [] => True
  | q :: r => OKQ E showI q ∧ OKQs E showI r
end

mutual
/-- the fuel the parser needs -/
def wQ : Q → Nat
  | .mk _ _ _ _ subs => 1 + wL subs
def wL : List Q → Nat
  | [] => 0
  | q :: r => 1 + wQ q + wL r
end

theorem coreQ_mk {showI : Int → Str} {optional : Bool} {ty : RType} {name : Option Str} {cs : List Cn} {subs : List Q} {c : Str}
    (h : coreQ showI (.mk optional ty name cs subs) = some c) :
    ∃ ts st, optAll (cs.map (printCn showI)) = some ts ∧ coreSubs showI subs = some st ∧
      c = headText optional ty name ++ (whereCore ts ++ subsCore ts subs.isEmpty st) := by
  unfold coreQ at h
  split at h
  next ts st hts hst => exact ⟨ts, st, hts, hst, (Option.some.inj h).symm⟩
  next => cases h

theorem coreSubs_cons {showI : Int → Str} {q : Q} {r : List Q} {st : Str} (h : coreSubs showI (q :: r) = some st) :
    ∃ c s, coreQ showI q = some c ∧ coreSubs showI r = some s ∧
      (if r.isEmpty then c else c ++ (tailOf q ++ '\n' :: '|' :: ' ' :: s)) = st := by
  unfold coreSubs at h
  split at h
  next c s hc hs => exact ⟨c, s, hc, hs, Option.some.inj h⟩
  next => cases h

theorem coreQ_starts (showI : Int → Str) (q : Q) (c : Str) (h : coreQ showI q = some c) : ∃ y, c = kSELECT ++ ' ' :: y := by
  cases q with
  | mk optional ty name cs subs =>
    obtain ⟨ts, st, _, _, rfl⟩ := coreQ_mk h
    exact ⟨(if optional = true then kOPTIONAL ++ [' '] else []) ++ (ty.upper ++ (nameText name ++ _)),
      by simp only [headText, List.append_assoc, List.cons_append, List.nil_append]; rfl⟩

theorem tailOf_cases (q : Q) : tailOf q = [] ∨ tailOf q = ['\n'] := by
  cases q with
  | mk _ _ _ cs subs => simp only [tailOf]; split <;> simp

theorem tailOf_ws (q : Q) : ∀ x ∈ tailOf q, isWs x = true := by
  rcases tailOf_cases q with h | h <;> rw [h]
  · simp
  · decide

mutual
theorem select_rt (E : Ext) (showI : Int → Str) : ∀ (q : Q) (c : Str), OKQ E showI q → coreQ showI q = some c →
    ∀ (rest : Str) (f : Nat), GoodRest rest → wQ q ≤ f → parseSelect E f (c ++ rest) = .ok (q, trimStart rest)
  | .mk optional ty name cs subs, c, hok, hc, rest, f, hr, hf => by
    unfold OKQ at hok
    obtain ⟨hname, hcs, hsubs⟩ := hok
    obtain ⟨ts, st, hts, hst, rfl⟩ := coreQ_mk hc
    obtain ⟨rfl, hg⟩ := cnTexts E showI cs ts hcs hts
    have hx := afterLines_subsCore (cs.map (cnText showI)) subs.isEmpty st rest hr
    obtain ⟨hy1, hy2, hy3⟩ := afterHead_facts _ _ hx
    unfold wQ at hf
    obtain ⟨f, rfl⟩ : ∃ f', f = f' + 1 := ⟨f - 1, by omega⟩
    unfold parseSelect
    rw [List.append_assoc, List.append_assoc, parseHead_printed optional ty name _ hname hy1 (fun _ => hy2)]
    simp only [hy3]
    rw [cnLoop_printed E showI cs hg _ [] _ hx.noTrail hx.stop (Nat.lt_succ_of_le (chain_length_le _ cs _ fun c hc => (hg c hc).starts))]
    simp only [trimStart_idem, List.nil_append]
    cases subs with
    | nil => simp only [List.isEmpty_nil, subsCore, ↓reduceIte, List.nil_append, if_neg hr.not_block]
    | cons q r =>
      simp only [List.isEmpty_cons, trimStart_subsCore, List.head?_cons, ↓reduceIte]
      rw [show subLoop E f ('{' :: '\n' :: ' ' :: (st ++ '\n' :: '}' :: rest)) [] = .ok (q :: r, trimStart rest) from
        subs_rt E showI (q :: r) st (by simp) hsubs hst rest f '{' ['\n', ' '] [] hr (Or.inl rfl) (by decide) (by omega)]
theorem subs_rt (E : Ext) (showI : Int → Str) : ∀ (subs : List Q) (st : Str), subs ≠ [] → OKQs E showI subs → coreSubs showI subs = some st →
    ∀ (rest : Str) (f : Nat) (d : Char) (w : Str) (acc : List Q), GoodRest rest → (d = '{' ∨ d = '|') → (∀ x ∈ w, isWs x = true) → wL subs ≤ f →
      subLoop E f (d :: w ++ (st ++ '\n' :: '}' :: rest)) acc = .ok (acc ++ subs, trimStart rest)
  | [], _, hne, _, _, _, _, _, _, _, _, _, _, _ => absurd rfl hne
  | q :: r, st, _, hok, hst, rest, f, d, w, acc, hr, hd, hw, hf => by
    unfold OKQs at hok
    obtain ⟨hq, hrs⟩ := hok
    obtain ⟨c, s, hc, hs, hst⟩ := coreSubs_cons hst
    unfold wL at hf
    obtain ⟨f, rfl⟩ : ∃ f', f = f' + 1 := ⟨f - 1, by omega⟩
    obtain ⟨y, hy⟩ := coreQ_starts showI q c hc
    obtain ⟨z, hz⟩ : ∃ z, st = kSELECT ++ z := by
      subst hst hy
      split
      · exact ⟨_, rfl⟩
      · exact ⟨_, by rw [List.append_assoc]⟩
    have htrim : trim (trimStart (w ++ (st ++ '\n' :: '}' :: rest))) = st ++ '\n' :: '}' :: rest := by
      rw [hz]
      exact (congrArg trim (trimStart_ws_cons w 'S' _ hw (by decide))).trans
        (trim_id 'S' _ (by decide) (noTrail_suffix (kSELECT ++ z) _ (by simp) (noTrail_close rest hr.1)))
    unfold subLoop
    rw [List.cons_append, dropByte_ascii d _ (by rcases hd with rfl | rfl <;> decide)]
    simp only [htrim]
    rw [if_neg (by rw [hz]; simp [kSELECT]), if_pos (by rw [hz]; simp [startsWith])]
    by_cases hre : r = []
    · subst hre
      simp only [List.isEmpty_nil, ↓reduceIte] at hst
      subst hst
      obtain ⟨hcl, hR⟩ := goodRest_gap ['\n'] '}' rest (by decide) (by simp) (.inl rfl) hr.1 hr.2.1
      rw [select_rt E showI q c hq hc ('\n' :: '}' :: rest) f hR (by omega)]
      simp only [show trimStart ('\n' :: '}' :: rest) = '}' :: rest from hcl,
        trimStart_cons_nonws (by decide : isWs '}' = false), List.head?_cons, dropByte_ascii '}' rest (by decide)]
    · have hrne : r.isEmpty = false := List.isEmpty_eq_false_iff.mpr hre
      simp only [hrne, Bool.false_eq_true, ↓reduceIte] at hst
      subst hst
      obtain ⟨hbar, hR⟩ := goodRest_gap (tailOf q ++ ['\n']) '|' (' ' :: (s ++ '\n' :: '}' :: rest))
        (by rcases tailOf_cases q with h | h <;> rw [h] <;> decide) (by simp) (.inr rfl)
        (noTrail_suffix (' ' :: s) _ (by simp) (noTrail_close rest hr.1)) splitStart_space
      rw [show c ++ (tailOf q ++ '\n' :: '|' :: ' ' :: s) ++ '\n' :: '}' :: rest
          = c ++ ((tailOf q ++ ['\n']) ++ '|' :: ' ' :: (s ++ '\n' :: '}' :: rest)) by simp,
        select_rt E showI q c hq hc _ f hR (by omega)]
      simp only [hbar, trimStart_cons_nonws (by decide : isWs '|' = false), List.head?_cons]
      rw [show subLoop E f ('|' :: ' ' :: (s ++ '\n' :: '}' :: rest)) (acc ++ [q]) = .ok (acc ++ [q] ++ r, trimStart rest) from
        subs_rt E showI r s hre hrs hs rest f '|' [' '] (acc ++ [q]) hr (Or.inr rfl) (by decide) (by omega)]
      simp
end

mutual
theorem wQ_le (showI : Int → Str) : ∀ (q : Q) (c : Str), coreQ showI q = some c → wQ q + 6 ≤ c.length
  | .mk optional ty name cs subs, c, h => by
    obtain ⟨ts, st, hts, hst, rfl⟩ := coreQ_mk h
    have hw := wL_le showI subs st hst
    have hhead : 7 ≤ (headText optional ty name).length := by
      simp only [headText, List.length_append, kSELECT, List.length_cons, List.length_nil]
      omega
    unfold wQ
    cases subs with
    | nil => simp only [wL] at *; simp only [List.length_append]; omega
    | cons q r =>
      simp only [subsCore, List.isEmpty_cons, Bool.false_eq_true, ↓reduceIte, List.length_append, List.length_cons, List.length_nil]
      omega
theorem wL_le (showI : Int → Str) : ∀ (l : List Q) (st : Str), coreSubs showI l = some st → wL l ≤ st.length + 1
  | [], _, _ => by simp [wL]
  | q :: r, st, h => by
    obtain ⟨c, s, hc, hs, rfl⟩ := coreSubs_cons h
    have h1 := wQ_le showI q c hc
    have h2 := wL_le showI r s hs
    unfold wL
    cases r with
    | nil => simp only [wL, List.isEmpty_nil, ↓reduceIte] at *; omega
    | cons a b =>
      simp only [List.isEmpty_cons, Bool.false_eq_true, ↓reduceIte, List.length_append, List.length_cons]
      omega
end

/-- after the head `h` and a clause of lines, given what `to_string` writes between the braces: the core text, then the
newline of the clause when no block follows -/
theorem withSubs_clause (showI : Int → Str) (h kw : Str) (ts : List Str) (subs : List Q) (t : Str)
    (hh : NoTrailWs h) (hts : ∀ t ∈ ts, NoTrailWs t ∧ t ≠ [])
    (hsubs : ∀ x, subs ≠ [] → printSubs showI subs true = some x →
      ∃ st tl, coreSubs showI subs = some st ∧ x = ' ' :: st ++ tl ∧ (tl = [] ∨ tl = ['\n']) ∧ NoTrailWs st ∧ st ≠ [])
    (hp : withSubs showI (h ++ (clauseCore kw ts ++ (if ts.isEmpty then [] else ['\n']))) subs = some t) :
    ∃ st, coreSubs showI subs = some st ∧
      t = (h ++ (clauseCore kw ts ++ subsCore ts subs.isEmpty st)) ++ (if !ts.isEmpty && subs.isEmpty then ['\n'] else []) ∧
      NoTrailWs (h ++ (clauseCore kw ts ++ subsCore ts subs.isEmpty st)) := by
  unfold withSubs at hp
  split at hp
  next subsText hsT =>
    simp only [Option.some.injEq] at hp
    subst hp
    cases subs with
    | nil =>
      refine ⟨[], rfl, ?_, ?_⟩
      · cases ts.isEmpty <;> simp [subsCore]
      · simpa [subsCore] using noTrail_clauseCore h kw ts hh hts
    | cons q r =>
      obtain ⟨st, tl, hst, rfl, htl, hstnt, hstne⟩ := hsubs subsText (by simp) hsT
      refine ⟨st, hst, ?_, ?_⟩
      · have := ensure_close (h ++ (clauseCore kw ts ++ (if ts.isEmpty then [] else ['\n'])) ++ ['\n', '{', '\n', ' ']) st
          tl hstne hstnt htl
        simp only [List.isEmpty_cons, Bool.false_eq_true, ↓reduceIte, Bool.and_false, List.append_nil, subsCore]
        simp only [List.append_assoc, List.cons_append, List.nil_append] at this ⊢
        exact this
      · have := noTrail_suffix (h ++ (clauseCore kw ts ++ ((if ts.isEmpty then [] else ['\n']) ++ ['\n', '{', '\n', ' '] ++ st ++ ['\n']))) ['}']
          (by simp) (noTrail_of_all (by decide))
        simpa [subsCore, List.append_assoc] using this
  next => simp at hp

theorem printQ_withSubs (showI : Int → Str) (optional : Bool) (ty : RType) (name : Option Str) (cs : List Cn) (subs : List Q) :
    printQ showI (.mk optional ty name cs subs) = (cnLines showI cs).bind fun lines =>
      withSubs showI (headText optional ty name ++ (if cs.isEmpty then [] else [' '] ++ kWHERE ++ ['\n'] ++ lines)) subs := by
  unfold printQ withSubs
  cases cnLines showI cs <;> cases printSubs showI subs true <;> rfl

mutual
theorem print_core (E : Ext) (showI : Int → Str) : ∀ (q : Q) (t : Str), OKQ E showI q → printQ showI q = some t →
    ∃ c, coreQ showI q = some c ∧ t = c ++ tailOf q ∧ NoTrailWs c
  | .mk optional ty name cs subs, t, hok, h => by
    unfold OKQ at hok
    obtain ⟨hname, hcs, hsubs⟩ := hok
    rw [printQ_withSubs] at h
    simp only [cnLines, Option.bind_eq_some_iff, Option.map_eq_some_iff] at h
    obtain ⟨_, ⟨ts, hts, rfl⟩, h⟩ := h
    obtain ⟨rfl, hg⟩ := cnTexts E showI cs ts hcs hts
    have hemp : (cs.map (cnText showI)).isEmpty = cs.isEmpty := List.isEmpty_map
    have htsn : ∀ t ∈ cs.map (cnText showI), NoTrailWs t ∧ t ≠ [] :=
      List.forall_mem_map.2 fun c hc => ⟨(hg c hc).2.1, (hg c hc).starts.ne_nil⟩
    rw [← hemp, show ∀ L : Str, [' '] ++ kWHERE ++ ['\n'] ++ L = ' ' :: kWHERE ++ '\n' :: L by simp, clause_lines] at h
    obtain ⟨st, hst, ht, hnt⟩ := withSubs_clause showI _ kWHERE _ subs t (noTrail_head optional ty name hname) htsn
      (fun x hne hx => by simpa using printSubs_core E showI subs true x hne hsubs hx) h
    refine ⟨_, by unfold coreQ; simp only [hts, hst]; rfl, ?_, hnt⟩
    rw [ht, tailOf, ← hemp]
theorem printSubs_core (E : Ext) (showI : Int → Str) : ∀ (subs : List Q) (first : Bool) (t : Str), subs ≠ [] → OKQs E showI subs →
    printSubs showI subs first = some t →
    ∃ st tl, coreSubs showI subs = some st ∧ t = (if first then [] else ['\n', '|']) ++ ' ' :: st ++ tl ∧ (tl = [] ∨ tl = ['\n']) ∧
      NoTrailWs st ∧ st ≠ []
  | [], _, _, hne, _, _ => absurd rfl hne
  | q :: r, first, t, _, hok, h => by
    unfold OKQs at hok
    obtain ⟨hq, hrs⟩ := hok
    unfold printSubs at h
    split at h
    next tq rt htq hrt =>
      simp only [Option.some.injEq] at h
      obtain ⟨c, hc, hct, hcnt⟩ := print_core E showI q tq hq htq
      obtain ⟨y, hy⟩ := coreQ_starts showI q c hc
      cases r with
      | nil =>
        have : rt = [] := by simp [printSubs] at hrt; exact hrt
        subst this
        refine ⟨c, tailOf q, by unfold coreSubs; simp [hc, coreSubs], ?_, tailOf_cases q, hcnt, by rw [hy]; simp⟩
        subst h hct
        simp
      | cons a b =>
        obtain ⟨s, tl, hs, hrt', htl, hsnt, hsne⟩ := printSubs_core E showI (a :: b) false rt (by simp) hrs hrt
        refine ⟨c ++ (tailOf q ++ '\n' :: '|' :: ' ' :: s), tl, by unfold coreSubs; simp [hc, hs], ?_, htl, ?_, by rw [hy]; simp⟩
        · subst h hct hrt'
          simp [List.append_assoc]
        · have := noTrail_suffix (c ++ (tailOf q ++ ['\n', '|', ' '])) s hsne hsnt
          simpa [List.append_assoc] using this
    next => simp at h
end

end Stam.QL
