import StamModel.Rel
/-
  The four relation tests are built from the pairwise arms `relPos`: each is its arm, complemented under `negate`, which
  no arm looks at; a set on the left is reduced to its members by `op.pick` (`pickAll`).
-/
namespace Stam.C13

set_option hygiene false in
/-- case split on an operator, naming the modifiers `al`, `ng`, `l`, `w` -/
macro "op_cases " op:ident : tactic =>
  `(tactic| rcases $op:ident with ⟨al, ng⟩ | ⟨al, ng⟩ | ⟨al, ng⟩ | ⟨al, ng, _ | l⟩ | ⟨al, ng, _ | l⟩ | ⟨al, ng, _ | l⟩
      | ⟨al, ng, w⟩ | ⟨al, ng, w⟩ | ⟨al, ng⟩ | ⟨al, ng⟩ | ⟨al, ng⟩ | ⟨al, ng⟩)

end Stam.C13

namespace Stam

/-! `rfl` below needs the limit and the `all` flag split too: the matches are stuck on them. -/

theorem Op.neg_toggleNeg (op : Op) : op.toggleNeg.neg = !op.neg := by
  cases op <;> rfl

theorem Op.neg_toggleAll (op : Op) : op.toggleAll.neg = op.neg := by
  cases op <;> rfl

theorem Op.pick_toggleNeg (op : Op) : op.toggleNeg.pick = op.pick := by
  op_cases op <;> cases al <;> rfl

theorem relPos_toggleNeg (op : Op) (a c : TSel) (r : Res) : relPos op.toggleNeg a c r = relPos op a c r := by
  op_cases op <;> rfl

theorem relPos_toggleAll (op : Op) (a c : TSel) (r : Res) : relPos op.toggleAll a c r = relPos op a c r := by
  op_cases op <;> rfl

theorem relSetPos_toggleNeg (op : Op) (a : TSel) (s : TSet) (r : Res) :
    relSetPos op.toggleNeg a s r = relSetPos op a s r := by
  op_cases op <;> cases al <;> rfl

theorem setRelSetPos_toggleNeg (op : Op) (s t : TSet) (r : Res) :
    setRelSetPos op.toggleNeg s t r = setRelSetPos op s t r := by
  op_cases op <;> cases al <;> rfl

/-- the shape of all four tests -/
theorem ite_not_flag (n b : Bool) : (if (!n) = true then !b else b) = !(if n = true then !b else b) := by
  cases n <;> simp

/-- how a set on the left is reduced to its members: all of them, or the extreme one(s) -/
def pickAll (p : Pick) (s : TSet) (f : TSel → Bool) : Bool :=
  match p with
  | .every => s.items.all f
  | .right => match s.rightmost with
      | some a => f a
      | none => false
  | .left => match s.leftmost with
      | some a => f a
      | none => false
  | .both => match s.leftmost, s.rightmost with
      | some a, some a' => f a && f a'
      | _, _ => false

theorem setRelPos_eq_pickAll (op : Op) (s : TSet) (c : TSel) (r : Res) :
    setRelPos op s c r = pickAll op.pick s (fun a => relPos op a c r) := by
  unfold setRelPos pickAll
  cases op.pick <;> rfl

/-- EQUALS between sets is two inclusions instead -/
theorem setRelSetPos_eq_pickAll {op : Op} {s t : TSet} {r : Res} (h : ∀ al ng, op ≠ .equals al ng) :
    setRelSetPos op s t r = pickAll op.pick s (fun a => relSetPos op a t r) := by
  unfold setRelSetPos pickAll
  split
  · exact absurd rfl (h _ _)
  · cases op.pick <;> rfl

theorem pickAll_congr {p : Pick} {s s' : TSet} {f : TSel → Bool} (hl : s.leftmost = s'.leftmost)
    (hr : s.rightmost = s'.rightmost) (ha : s.items.all f = s'.items.all f) : pickAll p s f = pickAll p s' f := by
  unfold pickAll
  rw [hl, hr, ha]

theorem setRelPos_toggleNeg (op : Op) (s : TSet) (c : TSel) (r : Res) :
    setRelPos op.toggleNeg s c r = setRelPos op s c r := by
  simp only [setRelPos_eq_pickAll, Op.pick_toggleNeg, relPos_toggleNeg]

theorem leftmost_singleton (a : TSel) (srt : Bool) : (⟨[a], srt⟩ : TSet).leftmost = some a := by
  cases srt <;> rfl

theorem rightmost_singleton (a : TSel) (srt : Bool) : (⟨[a], srt⟩ : TSet).rightmost = some a := rfl

theorem pickAll_singleton (p : Pick) (a : TSel) (srt : Bool) (f : TSel → Bool) : pickAll p ⟨[a], srt⟩ f = f a := by
  cases p <;> simp [pickAll, leftmost_singleton, rightmost_singleton]

theorem setRelPos_singleton (op : Op) (a : TSel) (srt : Bool) (c : TSel) (r : Res) :
    setRelPos op ⟨[a], srt⟩ c r = relPos op a c r := by
  rw [setRelPos_eq_pickAll, pickAll_singleton]

theorem relSetPos_singleton (op : Op) (a c : TSel) (srt : Bool) (r : Res) :
    relSetPos op a ⟨[c], srt⟩ r = relPos op a c r := by
  op_cases op <;> cases al <;>
    simp only [relSetPos, relPos, leftmost_singleton, rightmost_singleton, minBegin, maxEnd, List.any_cons, List.any_nil,
      List.all_cons, List.all_nil, Bool.or_false, Bool.and_true, List.isEmpty_cons, Bool.not_false, Bool.true_and]
  -- left over: SUCCEEDS with `all` compares `a.b = rm`, the pairwise arm `c.e = a.b`
  simp only [eq_comm (a := a.b)]

theorem any_and_all {α} (p : α → Bool) (l : List α) : (l.any p && l.all p) = (!l.isEmpty && l.all p) := by
  cases l with
  | nil => rfl
  | cons x xs => cases h : p x <;> simp [h]

theorem setRelSetPos_singleton (op : Op) (a : TSel) (srt : Bool) (t : TSet) (r : Res) :
    setRelSetPos op ⟨[a], srt⟩ t r = relSetPos op a t r := by
  cases op with
  | equals al ng =>
    -- `{a}` within `t` and `t` within `{a}`: `t` has a member and every member is `a`
    have : (fun c => decide (c = a)) = fun c => decide (a = c) := funext fun c => decide_eq_decide.2 eq_comm
    simp only [setRelSetPos, relSetPos, relPos, List.all_cons, List.all_nil, Bool.and_true, List.any_cons, List.any_nil,
      Bool.or_false, this, any_and_all]
  | _ => rw [setRelSetPos_eq_pickAll (fun _ _ h => by cases h), pickAll_singleton]

theorem singleton_left (op : Op) (a : TSel) (srt : Bool) (t : TSet) (r : Res) :
    setTestSet op ⟨[a], srt⟩ t r = testSet op a t r := by
  simp only [setTestSet, testSet, setRelSetPos_singleton, List.isEmpty_cons, Bool.false_eq_true, ↓reduceIte]

theorem rightmostScan_some (l : List TSel) : ∀ a, ∃ m, rightmostScan l (some a) = some m ∧
    a.e ≤ m.e ∧ (∀ x ∈ l, x.e ≤ m.e) ∧ (m ∈ l ∨ m = a) := by
  induction l with
  | nil => exact fun a => ⟨a, rfl, Nat.le_refl _, nofun, .inr rfl⟩
  | cons x xs ih =>
    intro a
    simp only [rightmostScan, List.forall_mem_cons]
    split
    · obtain ⟨m, hm, h1, h2, h3⟩ := ih x
      exact ⟨m, hm, by omega, ⟨h1, h2⟩, .inl (List.mem_cons.2 h3.symm)⟩
    · obtain ⟨m, hm, h1, h2, h3⟩ := ih a
      exact ⟨m, hm, h1, ⟨by omega, h2⟩, h3.imp_left (List.mem_cons_of_mem _)⟩

end Stam
