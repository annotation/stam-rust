import StamModel.Lemmas.StamqlText
/-
  The pieces of a printed STAMQL query of any of the three types — name, SELECT head, clause of lines and its loop, block
  of sub-queries, what may follow — and what the parser makes of each.
-/
namespace Stam.QL

/-- a name that is printed and read back: no white space in it, not ending in a semicolon -/
def NameOk (n : Str) : Prop := (∀ c ∈ n, isWs c = false) ∧ n.getLast? ≠ some ';'

theorem nameOk_some {x : Str} (h : NameOk x) : ∀ n, some x = some n → NameOk n :=
  fun _ e => Option.some.inj e ▸ h

theorem nameOk_word (n : Str) (h : NameOk n) : Word n := by
  intro x hx
  have := h.1 x hx
  cases hs : isSplit x with
  | false => rfl
  | true => rw [split_is_ws x hs] at this; exact absurd this (by decide)

theorem trimEndSemis_id (n : Str) (h : n.getLast? ≠ some ';') : trimEndSemis n = n :=
  reverse_dropWhile_reverse _ n (fun _ hc => decide_eq_false (fun e => h (e ▸ hc)))

theorem parseName_some (n y : Str) (hn : NameOk n) (hy : SplitStart y) :
    parseName ('?' :: n ++ y) = (some n, trimStart y) := by
  simp only [List.cons_append, parseName]
  rw [firstWord_append (nameOk_word n hn) hy, trimEndSemis_id n hn.2, List.drop_left]

theorem parseName_none (y : Str) (hy : y.head? ≠ some '?') : parseName y = (none, y) := by
  cases y with
  | nil => rfl
  | cons c r =>
    have : c ≠ '?' := by intro h; subst h; simp at hy
    unfold parseName
    split
    · rename_i r' heq; simp only [List.cons.injEq] at heq; exact absurd heq.1 this
    · rfl

theorem parseName_nameText (name : Option Str) (y : Str) (hn : ∀ n, name = some n → NameOk n) (hy : SplitStart y)
    (hq : name = none → (trimStart y).head? ≠ some '?') :
    parseName (trimStart (nameText name ++ y)) = (name, trimStart y) := by
  cases name with
  | none => exact parseName_none _ (hq rfl)
  | some n =>
    rw [show nameText (some n) ++ y = [' '] ++ '?' :: (n ++ y) by simp [nameText], trimStart_ws_cons _ _ _ (by decide) (by decide)]
    exact parseName_some n y (hn n rfl) hy

theorem splitStart_nameText (name : Option Str) (y : Str) (hy : SplitStart y) : SplitStart (nameText name ++ y) := by
  cases name with
  | none => exact hy
  | some n => exact splitStart_space

theorem noTrail_nameText (h : Str) (name : Option Str) (hh : NoTrailWs h) (hn : ∀ n, name = some n → NameOk n) :
    NoTrailWs (h ++ nameText name) := by
  cases name with
  | none => simpa [nameText] using hh
  | some n =>
    rw [show h ++ nameText (some n) = (h ++ [' ']) ++ ('?' :: n) by simp [nameText]]
    exact noTrail_suffix _ _ (by simp) (noTrail_of_all (by
      intro c hc
      rcases List.mem_cons.mp hc with rfl | hc
      · decide
      · exact (hn n rfl).1 c hc))

theorem upper_word (ty : RType) : Word ty.upper := by
  cases ty <;> (unfold Word RType.upper; decide)

theorem parseType_upper (ty : RType) : parseType ty.upper = some ty := by
  cases ty <;> decide

theorem word_kSELECT : Word kSELECT := by unfold Word kSELECT; decide

theorem upper_starts (ty : RType) : Starts ty.upper := by
  cases ty <;> exact ⟨_, _, rfl, by decide⟩

theorem parseTypeName_printed (ty : RType) (name : Option Str) (y : Str)
    (hn : ∀ n, name = some n → NameOk n) (hy : SplitStart y) (hq : name = none → (trimStart y).head? ≠ some '?') :
    parseTypeName (ty.upper ++ (nameText name ++ y)) = some (ty, name, trimStart y) := by
  unfold parseTypeName
  rw [firstWord_append (upper_word ty) (splitStart_nameText name y hy), parseType_upper]
  simp only [List.drop_left, parseName_nameText name y hn hy hq]

theorem parseOptional_yes (y : Str) : parseOptional (kOPTIONAL ++ ' ' :: y) = (true, trimStart y) := by
  obtain ⟨hw, hd⟩ := word_text (show Word kOPTIONAL by unfold Word kOPTIONAL; decide) (n := 8) rfl rfl splitStart_space
  unfold parseOptional
  rw [hw, if_pos rfl, hd, trimStart_space]

theorem parseOptional_no (ty : RType) (y : Str) (hy : SplitStart y) : parseOptional (ty.upper ++ y) = (false, ty.upper ++ y) := by
  unfold parseOptional
  rw [firstWord_append (upper_word ty) hy, if_neg (by cases ty <;> decide)]

theorem parseHead_printed (optional : Bool) (ty : RType) (name : Option Str) (y : Str)
    (hn : ∀ n, name = some n → NameOk n) (hy : SplitStart y) (hq : name = none → (trimStart y).head? ≠ some '?') :
    parseHead (headText optional ty name ++ y) = some (optional, ty, name, trimStart y) := by
  obtain ⟨_, hd⟩ := word_text word_kSELECT (n := 6) rfl
    (show headText optional ty name ++ y
      = kSELECT ++ ' ' :: ((if optional then kOPTIONAL ++ [' '] else []) ++ (ty.upper ++ (nameText name ++ y))) by simp [headText])
    splitStart_space
  unfold parseHead
  rw [hd, trimStart_space]
  cases optional with
  | true =>
    rw [if_pos rfl, List.append_assoc, trimStart_starts kOPTIONAL ⟨'O', _, rfl, by decide⟩]
    simp only [List.singleton_append, parseOptional_yes, trimStart_starts _ (upper_starts ty),
      parseTypeName_printed ty name y hn hy hq]
  | false =>
    simp only [Bool.false_eq_true, ↓reduceIte, List.nil_append, trimStart_starts _ (upper_starts ty),
      parseOptional_no ty _ (splitStart_nameText name y hy), parseTypeName_printed ty name y hn hy hq]

theorem noTrail_head (optional : Bool) (ty : RType) (name : Option Str) (hn : ∀ n, name = some n → NameOk n) :
    NoTrailWs (headText optional ty name) := by
  apply noTrail_nameText _ name _ hn
  apply noTrail_suffix _ _ (upper_starts ty).ne_nil
  apply noTrail_of_all
  cases ty <;> (unfold RType.upper; decide)

/-- the lines as they follow the keyword: a newline and a tab before each -/
def chain : List Str → Str → Str
  | [], rest => rest
  | t :: ts, rest => '\n' :: '\t' :: t ++ chain ts rest

theorem chain_append (ts : List Str) (a b : Str) : chain ts a ++ b = chain ts (a ++ b) := by
  induction ts with
  | nil => rfl
  | cons t ts ih => simp only [chain, List.cons_append, List.append_assoc, ih]

theorem lines_chain (ts : List Str) : '\n' :: (ts.map (fun t => '\t' :: t ++ ['\n'])).flatten = chain ts ['\n'] := by
  induction ts with
  | nil => rfl
  | cons t ts ih =>
    simp only [List.map_cons, List.flatten_cons, chain, List.cons_append, List.append_assoc, List.nil_append]
    simp only [List.cons_append] at ih
    rw [ih]

theorem splitStart_chain (ts : List Str) (rest : Str) (hr : SplitStart rest) : SplitStart (chain ts rest) := by
  cases ts with
  | nil => exact hr
  | cons t ts => exact splitStart_cons (by decide)

theorem trimStart_chain_cons (t : Str) (ts : List Str) (rest : Str) (ht : Starts t) :
    trimStart (chain (t :: ts) rest) = t ++ chain ts rest := by
  obtain ⟨c, r, rfl, hc⟩ := ht
  exact trimStart_ws_cons ['\n', '\t'] c (r ++ chain ts rest) (by decide) hc

theorem chain_invariant (R : Str → Prop) (ts : List Str) (rest : Str)
    (hstep : ∀ t ∈ ts, ∀ y, R y → R ('\n' :: '\t' :: t ++ y)) (hr : R rest) : R (chain ts rest) := by
  induction ts with
  | nil => exact hr
  | cons t ts ih => exact hstep t (by simp) _ (ih fun u hu => hstep u (by simp [hu]))

theorem noTrail_line (t y : Str) (ht : NoTrailWs t) (hne : t ≠ []) (hy : NoTrailWs y) : NoTrailWs ('\n' :: '\t' :: t ++ y) :=
  noTrail_append ('\n' :: '\t' :: t) y (noTrail_suffix ['\n', '\t'] t hne ht) hy

theorem chain_length_le {α} (txt : α → Str) (l : List α) (x : Str) (h : ∀ a ∈ l, Starts (txt a)) :
    l.length ≤ (trimStart (chain (l.map txt) x)).length := by
  have hge : ∀ ts : List Str, ts.length ≤ (chain ts x).length := by
    intro ts
    induction ts with
    | nil => simp
    | cons t ts ih => simp only [chain, List.length_cons, List.length_append]; omega
  cases l with
  | nil => simp
  | cons a l =>
    rw [List.map_cons, trimStart_chain_cons _ _ x (h a (by simp)), List.length_append]
    have := hge (l.map txt)
    have := List.length_pos_iff.mpr (h a (by simp)).ne_nil
    simp only [List.length_cons, List.length_map] at *
    omega

/-- `loop` is any function that unfolds as `cnLoop` and `asgLoop` do; `R` is what the parser of one item asks of the text
after the item, and every line hands it on. -/
theorem loop_printed {α} (stop : Str → Bool) (item : Str → Out (α × Str)) (loop : Nat → Str → List α → Out (List α × Str))
    (hloop : ∀ f q acc, loop (f + 1) q acc =
      if stop q then .ok (acc, q) else match item q with
        | .ok (a, r) => loop f r (acc ++ [a]) | .err m => .err m | .panic m => .panic m)
    (R : Str → Prop) (txt : α → Str) (rest : Str) (hr : R rest) (hstop : stop (trimStart rest) = true) :
    ∀ (l : List α),
      (∀ a ∈ l, Starts (txt a) ∧ (∀ y, stop (txt a ++ y) = false) ∧
        ∀ y, R y → R ('\n' :: '\t' :: txt a ++ y) ∧ item (txt a ++ y) = .ok (a, trimStart y)) →
      ∀ (acc : List α) (f : Nat), l.length < f →
        loop f (trimStart (chain (l.map txt) rest)) acc = .ok (acc ++ l, trimStart rest) := by
  intro l
  induction l with
  | nil =>
    intro _ acc f hf
    obtain ⟨f, rfl⟩ : ∃ f', f = f' + 1 := ⟨f - 1, by omega⟩
    simp [chain, hloop, hstop]
  | cons a l ih =>
    intro hg acc f hf
    obtain ⟨f, rfl⟩ : ∃ f', f = f' + 1 := ⟨f - 1, by omega⟩
    obtain ⟨hs, hns, hrt⟩ := hg a (by simp)
    have hR : R (chain (l.map txt) rest) :=
      chain_invariant R _ rest (fun t ht y hy => by
        obtain ⟨b, hb, rfl⟩ := List.mem_map.mp ht
        exact ((hg b (by simp [hb])).2.2 y hy).1) hr
    rw [List.map_cons, trimStart_chain_cons _ _ _ hs, hloop, hns, (hrt _ hR).2]
    simp only [Bool.false_eq_true, ↓reduceIte]
    rw [ih (fun b hb => hg b (by simp [hb])) _ f (by simpa using hf)]
    simp

/-- a constraint with its printed text: it is read back from that text whatever follows, and the text begins with a
character that is neither white space nor one of the characters that end the WHERE clause -/
def CnGood (E : Ext) (showI : Int → Str) (c : Cn) (t : Str) : Prop :=
  printCn showI c = some t ∧ NoTrailWs t ∧
  (∃ c0 r0, t = c0 :: r0 ∧ isWs c0 = false ∧ stopChar c0 = false) ∧
  ∀ rest, NoTrailWs rest → E.cn (t ++ rest) = .ok (c, trimStart rest)

theorem CnGood.starts {E : Ext} {showI : Int → Str} {c : Cn} {t : Str} (h : CnGood E showI c t) : Starts t := by
  obtain ⟨_, _, ⟨c0, r0, ht, hws, _⟩, _⟩ := h
  exact ⟨c0, r0, ht, hws⟩

theorem atStop_trimStart (q : Str) : atStop (trimStart q) = atStop q := by
  unfold atStop; rw [trimStart_idem]

theorem atStop_cons (c : Char) (r : Str) (hc : isWs c = false) : atStop (c :: r) = stopChar c := by
  simp [atStop, trimStart_cons_nonws hc]

/-- the text of a constraint that has one -/
def cnText (showI : Int → Str) (c : Cn) : Str := (printCn showI c).getD []

theorem optAll_map_getD {α β} (f : α → Option β) (d : β) : ∀ (l : List α) (ts : List β),
    optAll (l.map f) = some ts → ts = l.map (fun a => (f a).getD d)
  | [], ts, h => by
    cases h
    rfl
  | a :: l, ts, h => by
    cases hfa : f a with
    | none => simp [optAll, hfa] at h
    | some b =>
      simp only [List.map_cons, hfa, optAll, Option.map_eq_some_iff] at h
      obtain ⟨ts', hts', rfl⟩ := h
      simp [hfa, optAll_map_getD f d l ts' hts']

theorem cnTexts (E : Ext) (showI : Int → Str) (cs : List Cn) (ts : List Str) (hcs : ∀ c ∈ cs, ∃ t, CnGood E showI c t)
    (hts : optAll (cs.map (printCn showI)) = some ts) :
    ts = cs.map (cnText showI) ∧ ∀ c ∈ cs, CnGood E showI c (cnText showI c) :=
  ⟨optAll_map_getD _ [] cs ts hts, fun c hc => (hcs c hc).elim fun t ht => by
    rw [cnText, ht.1]
    exact ht⟩

theorem cnLoop_printed (E : Ext) (showI : Int → Str) (cs : List Cn) (hg : ∀ c ∈ cs, CnGood E showI c (cnText showI c))
    (rest : Str) (acc : List Cn) (f : Nat) (hr : NoTrailWs rest) (hstop : trimStart rest = [] ∨ atStop rest = true)
    (hf : cs.length < f) :
    cnLoop E f (trimStart (chain (cs.map (cnText showI)) rest)) acc = .ok (acc ++ cs, trimStart rest) := by
  refine loop_printed (fun q => q.isEmpty || atStop q) E.cn (cnLoop E) ?_ NoTrailWs _ rest hr ?_ cs ?_ acc f hf
  · intro f q acc
    rw [cnLoop]
    -- this `match` and the one in `loop_printed` are different auxiliary functions: equal case by case, not by unfolding
    rcases E.cn q with ⟨c, r⟩ | m | m <;> rfl
  · rcases hstop with h | h
    · simp [h]
    · simp [atStop_trimStart, h]
  · intro c hc
    obtain ⟨_, hnt, ⟨c0, r0, ht, hws, hsc⟩, hrt⟩ := hg c hc
    refine ⟨⟨c0, r0, ht, hws⟩, fun y => ?_, fun y hy => ⟨noTrail_line _ y hnt (by rw [ht]; simp) hy, hrt y hy⟩⟩
    rw [ht, List.cons_append, atStop_cons _ _ hws, hsc]
    rfl

/-- what may follow a printed query -/
def GoodRest (rest : Str) : Prop :=
  NoTrailWs rest ∧ SplitStart rest ∧
  (firstWord (trimStart rest) = [] ∨ firstWord (trimStart rest) = ['}'] ∨ firstWord (trimStart rest) = ['|'])

/-- what may follow the name or the last line: as after the query, or a block of sub-queries -/
structure AfterLines (x : Str) : Prop where
  noTrail : NoTrailWs x
  splitStart : SplitStart x
  word : firstWord (trimStart x) = ['{'] ∨ firstWord (trimStart x) = ['}'] ∨ firstWord (trimStart x) = ['|'] ∨
    firstWord (trimStart x) = []

theorem GoodRest.afterLines {rest : Str} (h : GoodRest rest) : AfterLines rest := by
  refine ⟨h.1, h.2.1, ?_⟩
  rcases h.2.2 with h | h | h
  · exact .inr (.inr (.inr h))
  · exact .inr (.inl h)
  · exact .inr (.inr (.inl h))

theorem goodRest_nil : GoodRest [] := ⟨noTrail_nil, Or.inl rfl, Or.inl rfl⟩

theorem AfterLines.head {x : Str} (h : AfterLines x) :
    trimStart x = [] ∨ ∃ c, (trimStart x).head? = some c ∧ (c = '{' ∨ c = '}' ∨ c = '|') := by
  rcases h.word with h | h | h | h
  · exact Or.inr ⟨_, firstWord_head h, Or.inl rfl⟩
  · exact Or.inr ⟨_, firstWord_head h, Or.inr (Or.inl rfl)⟩
  · exact Or.inr ⟨_, firstWord_head h, Or.inr (Or.inr rfl)⟩
  · exact Or.inl (firstWord_nil_of_trimmed x h)

theorem AfterLines.stop {x : Str} (h : AfterLines x) : trimStart x = [] ∨ atStop x = true := by
  rcases h.head with h | ⟨c, hc, h⟩
  · exact Or.inl h
  · right
    unfold atStop
    rw [hc]
    rcases h with rfl | rfl | rfl <;> rfl

theorem AfterLines.not_name {x : Str} (h : AfterLines x) : (trimStart x).head? ≠ some '?' := by
  rcases h.head with h | ⟨c, hc, h⟩
  · simp [h]
  · rw [hc]
    rcases h with rfl | rfl | rfl <;> decide

theorem GoodRest.not_block {rest : Str} (h : GoodRest rest) : (trimStart rest).head? ≠ some '{' := by
  rcases h.2.2 with h | h | h
  · simp [firstWord_nil_of_trimmed rest h]
  · rw [firstWord_head h]
    decide
  · rw [firstWord_head h]
    decide

/-- ` WHERE` or ` WITH` and the lines, without the last newline -/
def clauseCore (kw : Str) (ts : List Str) : Str := if ts.isEmpty then [] else ' ' :: kw ++ chain ts []

theorem clauseCore_nil (kw : Str) : clauseCore kw [] = [] := rfl

/-- the clause as `to_string` writes it -/
theorem clause_lines (kw : Str) (ts : List Str) :
    (if ts.isEmpty then [] else ' ' :: kw ++ '\n' :: (ts.map (fun t => '\t' :: t ++ ['\n'])).flatten)
      = clauseCore kw ts ++ (if ts.isEmpty then [] else ['\n']) := by
  cases ts with
  | nil => rfl
  | cons t ts =>
    simp only [clauseCore, List.isEmpty_cons, Bool.false_eq_true, ↓reduceIte]
    rw [lines_chain, List.append_assoc, chain_append]
    rfl

theorem noTrail_clauseCore (h kw : Str) (ts : List Str) (hh : NoTrailWs h) (hts : ∀ t ∈ ts, NoTrailWs t ∧ t ≠ []) :
    NoTrailWs (h ++ clauseCore kw ts) := by
  cases ts with
  | nil => simpa [clauseCore] using hh
  | cons t ts =>
    rw [show h ++ clauseCore kw (t :: ts) = (h ++ ' ' :: kw) ++ chain (t :: ts) [] by simp [clauseCore]]
    exact noTrail_suffix _ _ (by simp [chain])
      (chain_invariant NoTrailWs _ [] (fun t ht y hy => noTrail_line t y (hts t ht).1 (hts t ht).2 hy) noTrail_nil)

/-- after the name, `x` being what follows the clause: the keyword and the lines, or `x` at once; no second name is seen -/
theorem after_name (kw : Str) (hk : Starts kw) (hq : kw.head? ≠ some '?') (ts : List Str) (x : Str) (hx : AfterLines x) :
    SplitStart (clauseCore kw ts ++ x) ∧ (trimStart (clauseCore kw ts ++ x)).head? ≠ some '?' ∧
      (ts = [] → clauseCore kw ts ++ x = x) ∧
      (ts ≠ [] → trimStart (clauseCore kw ts ++ x) = kw ++ chain ts x) := by
  cases ts with
  | nil => exact ⟨hx.splitStart, hx.not_name, fun _ => rfl, fun h => absurd rfl h⟩
  | cons t ts =>
    have hy : clauseCore kw (t :: ts) ++ x = ' ' :: (kw ++ chain (t :: ts) x) := by
      simp only [clauseCore, List.isEmpty_cons, Bool.false_eq_true, ↓reduceIte, List.cons_append, List.append_assoc]
      rw [chain_append, List.nil_append]
    have ht : trimStart (clauseCore kw (t :: ts) ++ x) = kw ++ chain (t :: ts) x := by
      rw [hy, trimStart_space, trimStart_starts _ hk]
    refine ⟨hy ▸ splitStart_space, ?_, fun h => by simp at h, fun _ => ht⟩
    obtain ⟨c, r, rfl, _⟩ := hk
    rw [ht]
    exact hq

theorem whereStep_where (y : Str) (hy : SplitStart y) : whereStep (kWHERE ++ y) = some (trimStart y) := by
  obtain ⟨hw, hd⟩ := word_text (show Word kWHERE by unfold Word kWHERE; decide) (n := 5) rfl rfl hy
  unfold whereStep
  rw [hw, if_pos rfl, hd]

theorem whereStep_stop (q : Str) (h : firstWord q = ['{'] ∨ firstWord q = ['}'] ∨ firstWord q = ['|'] ∨ firstWord q = []) :
    whereStep q = some q := by
  unfold whereStep
  have hne : firstWord q ≠ kWHERE := by
    rcases h with h | h | h | h <;> rw [h] <;> decide
  simp only [if_neg hne, if_pos h]

def whereCore (ts : List Str) : Str := if ts.isEmpty then [] else ' ' :: kWHERE ++ chain ts []

theorem whereCore_eq (ts : List Str) : whereCore ts = clauseCore kWHERE ts := rfl

theorem afterHead_facts (ts : List Str) (x : Str) (hx : AfterLines x) :
    SplitStart (whereCore ts ++ x) ∧ (trimStart (whereCore ts ++ x)).head? ≠ some '?' ∧
      whereStep (trimStart (whereCore ts ++ x)) = some (trimStart (chain ts x)) := by
  obtain ⟨h1, h2, h3, h4⟩ := after_name kWHERE ⟨'W', _, rfl, by decide⟩ (by decide) ts x hx
  refine ⟨h1, h2, ?_⟩
  by_cases hts : ts = []
  · subst hts
    rw [whereCore_eq, h3 rfl]
    exact whereStep_stop _ hx.word
  · rw [whereCore_eq, h4 hts]
    exact whereStep_where _ (splitStart_chain ts x hx.splitStart)

/-- the block of sub-queries -/
def subsCore (ts : List Str) (noSubs : Bool) (st : Str) : Str :=
  if noSubs then [] else (if ts.isEmpty then [] else ['\n']) ++ ['\n', '{', '\n', ' '] ++ (st ++ ['\n', '}'])

theorem trimStart_subsCore (ts : List Str) (st rest : Str) :
    trimStart (subsCore ts false st ++ rest) = '{' :: '\n' :: ' ' :: (st ++ '\n' :: '}' :: rest) := by
  have : subsCore ts false st ++ rest
      = ((if ts.isEmpty then [] else ['\n']) ++ ['\n']) ++ '{' :: '\n' :: ' ' :: (st ++ '\n' :: '}' :: rest) := by
    simp [subsCore]
  rw [this]
  exact trimStart_ws_cons _ _ _ (by split <;> decide) (by decide)

theorem noTrail_close (rest : Str) (hr : NoTrailWs rest) : NoTrailWs ('\n' :: '}' :: rest) :=
  noTrail_append_cons ['\n'] rest '}' (by decide) hr

theorem goodRest_gap (w : Str) (c : Char) (y : Str) (hw : ∀ x ∈ w, isSplit x = true) (hne : w ≠ []) (hc : c = '}' ∨ c = '|')
    (hy : NoTrailWs y) (hs : SplitStart y) : trimStart (w ++ c :: y) = c :: y ∧ GoodRest (w ++ c :: y) := by
  have hcw : isWs c = false ∧ Word [c] := by
    unfold Word
    rcases hc with rfl | rfl <;> decide
  have ht := trimStart_ws_cons w c y (fun x hx => split_is_ws x (hw x hx)) hcw.1
  refine ⟨ht, noTrail_append_cons w y c hcw.1 hy, ?_, ?_⟩
  · obtain ⟨x, r, rfl⟩ := List.exists_cons_of_ne_nil hne
    exact splitStart_cons (hw x (by simp))
  · rw [ht, show firstWord (c :: y) = [c] from firstWord_append hcw.2 hs]
    rcases hc with rfl | rfl
    · exact .inr (.inl rfl)
    · exact .inr (.inr rfl)

theorem firstWord_block (ts : List Str) (st rest : Str) : firstWord (trimStart (subsCore ts false st ++ rest)) = ['{'] := by
  rw [trimStart_subsCore]
  exact firstWord_append (w := ['{']) (by unfold Word; decide) (splitStart_cons (by decide))

theorem afterLines_subsCore (ts : List Str) (noSubs : Bool) (st rest : Str) (hr : GoodRest rest) :
    AfterLines (subsCore ts noSubs st ++ rest) := by
  cases noSubs with
  | true => exact hr.afterLines
  | false =>
    refine ⟨?_, ?_, Or.inl ?_⟩
    · have := noTrail_suffix ((if ts.isEmpty then [] else ['\n']) ++ ['\n', '{', '\n', ' '] ++ st) _ (by simp) (noTrail_close rest hr.1)
      simpa [subsCore] using this
    · cases hts : ts.isEmpty <;> simp [subsCore, hts] <;> exact splitStart_cons (by decide)
    · exact firstWord_block ts st rest

theorem afterLines_block (ts : List Str) (noSubs : Bool) (st : Str) : AfterLines (subsCore ts noSubs st) := by
  simpa using afterLines_subsCore ts noSubs st [] goodRest_nil

/-- the closing brace goes on a line of its own -/
theorem ensure_close (x st tl : Str) (hne : st ≠ []) (hnt : NoTrailWs st) (htl : tl = [] ∨ tl = ['\n']) :
    ensureNewline (x ++ st ++ tl) ++ ['}'] = x ++ st ++ ['\n', '}'] := by
  unfold ensureNewline
  rcases htl with rfl | rfl
  · have hl : (x ++ st ++ []).getLast? ≠ some '\n' := by
      rw [List.append_nil]
      intro hc
      exact absurd (noTrail_suffix x st hne hnt _ hc) (by decide)
    rw [if_neg hl]; simp
  · have hl : (x ++ st ++ ['\n']).getLast? = some '\n' := by simp
    rw [if_pos hl]; simp

theorem trim_query_text (kw Z w : Str) (hk : Starts kw) (hw : Word kw) (hZ : SplitStart Z) (hc : NoTrailWs (kw ++ Z))
    (hws : ∀ x ∈ w, isWs x = true) : trim (kw ++ Z ++ w) = kw ++ Z ∧ firstWord (kw ++ Z) = kw :=
  ⟨trim_append_ws _ w (hk.append Z) hc hws, firstWord_append hw hZ⟩

end Stam.QL
